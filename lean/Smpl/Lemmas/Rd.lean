/-
The byte reader `Smpl.Akai.rd` (with `uN`, `leVal`, `words16`) in concatenations and over tables
`(List.range N).map f`, as the round-trip proofs use it.
-/
import Smpl.Model.Akai

namespace Smpl.Akai

theorem rd_of_le {c : Bytes} {off n : Nat} (h : off + n ≤ c.length) :
    rd c off n = some ((c.drop off).take n) := if_pos h

theorem rd_eq_some {c x : Bytes} {off n : Nat} (h : rd c off n = some x) :
    off + n ≤ c.length ∧ x = (c.drop off).take n := by
  unfold rd at h
  split at h
  · exact ⟨‹_›, (Option.some.inj h).symm⟩
  · cases h

theorem rd_length {c x : Bytes} {off n : Nat} (h : rd c off n = some x) : x.length = n := by
  obtain ⟨hle, rfl⟩ := rd_eq_some h
  rw [List.length_take, List.length_drop, Nat.min_eq_left (Nat.le_sub_of_add_le' hle)]

theorem rd_split {c x : Bytes} {off n : Nat} (h : rd c off n = some x) :
    ∃ pre rest, c = pre ++ (x ++ rest) ∧ pre.length = off := by
  obtain ⟨hle, rfl⟩ := rd_eq_some h
  exact ⟨c.take off, (c.drop off).drop n, by rw [List.take_append_drop, List.take_append_drop],
    List.length_take_of_le (Nat.le_of_add_right_le hle)⟩

theorem rd_skip (pre x : Bytes) (k n : Nat) : rd (pre ++ x) (pre.length + k) n = rd x k n := by
  simp only [rd, List.length_append, Nat.add_assoc, Nat.add_le_add_iff_left, List.drop_append,
    List.drop_of_length_le (Nat.le_add_right pre.length k), Nat.add_sub_cancel_left, List.nil_append]

theorem rd_left {a b : Bytes} {off n : Nat} (h : off + n ≤ a.length) : rd (a ++ b) off n = rd a off n := by
  rw [rd_of_le h, rd_of_le (by rw [List.length_append]; exact Nat.le_add_right_of_le h),
    List.drop_append_of_le_length (Nat.le_of_add_right_le h),
    List.take_append_of_le_length (by rw [List.length_drop]; exact Nat.le_sub_of_add_le' h)]

theorem rd_prefix (a x : Bytes) : rd (a ++ x) 0 a.length = some a := by simp [rd]

theorem rd_replace {a x y b : Bytes} (hxy : x.length = y.length) {off n : Nat}
    (h : off + n ≤ a.length ∨ a.length + x.length ≤ off) :
    rd (a ++ (x ++ b)) off n = rd (a ++ (y ++ b)) off n := by
  rcases h with h | h
  · rw [rd_left h, rd_left h]
  · obtain ⟨d, rfl⟩ := Nat.exists_eq_add_of_le h
    rw [← List.append_assoc, ← List.append_assoc, ← List.length_append, rd_skip, List.length_append, hxy,
      ← List.length_append, rd_skip]

theorem rd_piece (a x b : Bytes) : rd (a ++ (x ++ b)) a.length x.length = some x := by
  rw [← Nat.add_zero a.length, rd_skip, rd_prefix]

theorem rd_flatten (pre : Bytes) {ps : List Bytes} {i : Nat} {x : Bytes} (hi : ps[i]? = some x) :
    rd (pre ++ ps.flatten) (pre.length + ((ps.take i).map List.length).sum) x.length = some x := by
  induction ps generalizing pre i with
  | nil => cases hi
  | cons p ps ih =>
    cases i with
    | zero =>
      obtain rfl : p = x := Option.some.inj hi
      exact rd_piece pre p ps.flatten
    | succ i =>
      have := ih (pre ++ p) (i := i) hi
      simpa [Nat.add_assoc] using this

theorem rd_map (N : Nat) (f : Nat → Nat) (rest : Bytes) (off n : Nat) (h : off + n ≤ N) :
    rd ((List.range N).map f ++ rest) off n = some ((List.range' off n).map f) := by
  have hN : off + n ≤ ((List.range N).map f).length := by rwa [List.length_map, List.length_range]
  rw [rd_left hN, rd_of_le hN, ← List.map_drop, ← List.map_take,
    List.range_eq_range', List.drop_range', List.take_range'_of_length_ge (Nat.le_sub_of_add_le' h)]
  simp

theorem rd_table (pre rest : Bytes) (N : Nat) (f : Nat → Nat) (k n : Nat) (h : k + n ≤ N) :
    rd (pre ++ ((List.range N).map f ++ rest)) (pre.length + k) n = some ((List.range' k n).map f) := by
  rw [rd_skip, rd_map N f rest k n h]

theorem map_range'_shift {f g : Nat → Nat} {a k n : Nat} (h : ∀ r, k ≤ r → r < k + n → f (a + r) = g r) :
    (List.range' (a + k) n).map f = (List.range' k n).map g := by
  rw [← List.map_add_range', List.map_map]
  apply List.map_congr_left
  intro r hr
  obtain ⟨hk, hn⟩ := List.mem_range'_1.mp hr
  exact h r hk hn

theorem map_getD_range {l : Bytes} {n : Nat} (hn : l.length = n) : (List.range' 0 n).map (l.getD · 0) = l := by
  subst hn
  refine List.ext_getElem (by rw [List.length_map, List.length_range']) fun i _ h => ?_
  rw [List.getElem_map, List.getElem_range', Nat.zero_add, Nat.one_mul, List.getD_eq_getElem?_getD,
    List.getElem?_eq_getElem h, Option.getD_some]

theorem uN_skip (pre x : Bytes) (k n : Nat) : uN (pre ++ x) (pre.length + k) n = uN x k n := by
  rw [uN, rd_skip, ← uN]

/-- at a concrete offset `rfl` proves `hds`: the table's bytes are found by evaluating `f`. -/
theorem uN_map (N : Nat) (f : Nat → Nat) (rest : Bytes) (off n : Nat) {ds : Bytes} (v : Nat) (h : off + n ≤ N)
    (hds : (List.range' off n).map f = ds) (hv : leVal ds = v) :
    uN ((List.range N).map f ++ rest) off n = some v := by
  rw [uN, rd_map N f rest off n h, hds, Option.map_some, hv]

theorem uN_table (pre rest : Bytes) (N : Nat) (f : Nat → Nat) (k n : Nat) {ds : Bytes} (v : Nat) (h : k + n ≤ N)
    (hds : (List.range' k n).map f = ds) (hv : leVal ds = v) :
    uN (pre ++ ((List.range N).map f ++ rest)) (pre.length + k) n = some v := by
  rw [uN_skip, uN_map N f rest k n v h hds hv]

theorem leVal_cons_mod {n : Nat} {bs : Bytes} (h : leVal bs = n / 256) : leVal (n % 256 :: bs) = n := by
  rw [leVal, h, Nat.mod_add_div]

theorem leVal_cons_div {n d : Nat} {bs : Bytes} (h : leVal bs = n / (d * 256)) :
    leVal (n / d % 256 :: bs) = n / d :=
  leVal_cons_mod (h.trans (Nat.div_div_eq_div_mul n d 256).symm)

theorem words16_cons (w : Nat) (bs : Bytes) :
    words16 (w % 256 :: w / 256 :: bs) = w :: words16 bs := by
  rw [words16, Nat.mod_add_div]

theorem words16_length : ∀ {n : Nat} {bs : Bytes}, bs.length = 2 * n → (words16 bs).length = n
  | 0, [], _ => rfl
  | n + 1, a :: b :: rest, h => by
    rw [words16, List.length_cons, words16_length (n := n) (bs := rest) (Nat.add_right_cancel (m := 2) h)]

end Smpl.Akai
