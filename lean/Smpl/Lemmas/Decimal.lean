import Smpl.Model.Names
import Smpl.Model.AkaiProgram
/-! Decimal texts. `natChars_eq` is the one step out of `String`: `natChars n = (toString n).toList` is
core's `Nat.toDigits 10 n`, which core has lemmas about and the kernel evaluates quickly. -/
namespace Smpl

theorem Names.natChars_eq (n : Nat) : Names.natChars n = Nat.toDigits 10 n := by
  simp [Names.natChars]

theorem Codec.intChars_ofNat (n : Nat) : Codec.intChars (.ofNat n) = Names.natChars n := by
  rw [Names.natChars_eq]; rfl

theorem Codec.intChars_negSucc (n : Nat) : Codec.intChars (.negSucc n) = '-' :: Names.natChars (n + 1) := by
  rw [Names.natChars_eq]; rfl

theorem AkaiProgram.intName_eq (i : Int) : AkaiProgram.intName i = Codec.intChars i := by
  cases i <;> simp [AkaiProgram.intName, Codec.intChars, Codec.natDigits, Int.repr]

theorem Names.natChars_digit (n : Nat) (c : Char) (h : c ∈ Names.natChars n) :
    48 ≤ c.toNat ∧ c.toNat ≤ 57 := by
  rw [Names.natChars_eq] at h
  simpa [Char.isDigit, UInt32.le_iff_toNat_le] using
    Nat.isDigit_of_mem_toDigits (by decide) (by decide) h

theorem Names.natChars_head (n : Nat) :
    ∃ c r, Names.natChars n = c :: r ∧ 48 ≤ c.toNat ∧ c.toNat ≤ 57 := by
  match h : Names.natChars n with
  | [] => exact absurd (Names.natChars_eq n ▸ h) Nat.toDigits_ne_nil
  | c :: r => exact ⟨c, r, rfl, Names.natChars_digit n c (h ▸ List.mem_cons_self ..)⟩

end Smpl
