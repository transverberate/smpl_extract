/-
What "behaves like a read-only file" means in the stream layer (`IsSub`, `IsFile`), and the theorem
`window_isFile` from which every window class gets that behaviour (C08, C11).
-/
import Smpl.Model.Stream

namespace Smpl.Stream

/-- nothing outside the footprint `fp` is written. -/
def Frame (fp : List Nat) (s s' : Store) : Prop := ∀ j, j ∉ fp → s' j = s j

theorem Frame.refl {fp : List Nat} {s : Store} : Frame fp s s := fun _ _ => rfl

theorem Frame.trans {fp : List Nat} {s1 s2 s3 : Store} (h1 : Frame fp s1 s2) (h2 : Frame fp s2 s3) :
    Frame fp s1 s3 := fun j hj => (h2 j hj).trans (h1 j hj)

theorem Frame.mono {fp fp' : List Nat} {s s' : Store} (h : Frame fp s s') (hsub : ∀ j, j ∈ fp → j ∈ fp') :
    Frame fp' s s' := fun j hj => h j (fun hm => hj (hsub j hm))

theorem Frame.set {fp : List Nat} {s s' : Store} (h : Frame fp s s') (i : Nat) (c : Cell) (hi : i ∈ fp) :
    Frame fp s (s'.set i c) :=
  fun j hj => (Store.set_other s' i j c fun e => hj (e ▸ hi)).trans (h j hj)

/-- every wrapper operation writes its own cell, lets the substream work, writes its own cell again. -/
theorem Frame.around {fpk : List Nat} {s s2 : Store} {i : Nat} {c c' : Cell}
    (h : Frame fpk (s.set i c) s2) : Frame (i :: fpk) s (s2.set i c') :=
  ((Frame.refl.set i c (List.mem_cons_self ..)).trans
    (h.mono fun _ => List.mem_cons_of_mem _)).set i c' (List.mem_cons_self ..)

/-- The store invariant: every object's cell satisfies that object's predicate (`ok j` is `True` where
`j` is no stream object).  One family `ok` serves all objects of an image: one invariant for all. -/
def GInv (ok : Nat → Cell → Prop) (s : Store) : Prop := ∀ j, ok j (s j)

theorem GInv.set {ok : Nat → Cell → Prop} {s : Store} (h : GInv ok s) (i : Nat) (c : Cell)
    (hc : ok i c) : GInv ok (s.set i c) := by
  intro j
  by_cases e : j = i
  · rw [e, Store.set_same]; exact hc
  · rw [Store.set_other s i j c e]; exact h j

/-- What a wrapping class needs from its substream `f` (object `i`, content `c`, footprint `fp`):
absolute seeks and reads at the cursor, in every store satisfying the invariant, wherever the
cursors of the objects below it stand. -/
structure IsSub (f : FileLike) (c : List Byte) (i : Nat) (fp : List Nat) (ok : Nat → Cell → Prop) : Prop where
  mem    : i ∈ fp
  nonneg : ∀ cell, ok i cell → 0 ≤ cell.pos
  tell   : ∀ s, f.tell s = (s i).pos
  seek   : ∀ s (a : Int), GInv ok s → 0 ≤ a →
             ∃ r s', f.seek a 0 s = (.ok r, s') ∧ GInv ok s' ∧ Frame fp s s' ∧
               (a ≤ c.length → r = a ∧ (s' i).pos = a)
  read   : ∀ s (n : Int), GInv ok s → 0 ≤ n →
             ∃ s', f.read n s = (.ok (slice c (s i).pos n), s') ∧
               (s' i).pos = (s i).pos + (slice c (s i).pos n).length ∧ GInv ok s' ∧ Frame fp s s'

def seekTarget (len p off wh : Int) : Int :=
  clampPos len ((if wh = 1 then p else if wh = 2 then len else 0) + off)

/-- The read-only-file behaviour of C08: `IsSub`, plus `seek(offset, whence)` for every offset and
whence, clamped to `[0, len]`, and the cursor always in `[0, len]`.  The OS file is only an `IsSub`:
it seeks past its end. -/
structure IsFile (f : FileLike) (c : List Byte) (i : Nat) (fp : List Nat) (ok : Nat → Cell → Prop) : Prop
    extends IsSub f c i fp ok where
  bound    : ∀ cell, ok i cell → cell.pos ≤ c.length
  seekFull : ∀ s (off wh : Int), GInv ok s →
             ∃ s', f.seek off wh s = (.ok (seekTarget c.length (s i).pos off wh), s') ∧
               (s' i).pos = seekTarget c.length (s i).pos off wh ∧ GInv ok s' ∧ Frame fp s s'

/-! Positions and sizes are `Int` in the model and non-negative wherever a slice is taken: the lemmas
on `slice` move to `Nat` first (`slice_nat`), so that no proof reasons about `Int.toNat`. -/

theorem slice_nat (c : List Byte) (a n : Nat) : slice c a n = (c.drop a).take n := by
  rw [slice, if_neg (by omega)]; rfl

theorem natCast_min (m n : Nat) : ((min m n : Nat) : Int) = min (m : Int) n := by omega

theorem slice_length (c : List Byte) {a n : Int} (ha : 0 ≤ a) (hn : 0 ≤ n) :
    ((slice c a n).length : Int) = min n (max 0 (c.length - a)) := by
  obtain ⟨a, rfl⟩ := Int.eq_ofNat_of_zero_le ha
  obtain ⟨n, rfl⟩ := Int.eq_ofNat_of_zero_le hn
  rw [slice_nat, List.length_take, List.length_drop, natCast_min, ← Int.toNat_sub, Int.toNat_eq_max,
    Int.max_comm]

theorem slice_length_of_le (c : List Byte) {a n : Int} (ha : 0 ≤ a) (hn : 0 ≤ n)
    (h : a + n ≤ c.length) : ((slice c a n).length : Int) = n := by
  rw [slice_length c ha hn,
    Int.min_eq_left (Int.le_trans (Int.le_sub_left_of_add_le h) (Int.le_max_right ..))]

theorem slice_slice (c : List Byte) (off eof p n : Int) (hoff : 0 ≤ off) (heof : 0 ≤ eof)
    (hp : 0 ≤ p) (hn : 0 ≤ n) (hpe : p ≤ eof) :
    slice (slice c off eof) p n = slice c (off + p) (min n (eof - p)) := by
  obtain ⟨off, rfl⟩ := Int.eq_ofNat_of_zero_le hoff
  obtain ⟨eof, rfl⟩ := Int.eq_ofNat_of_zero_le heof
  obtain ⟨p, rfl⟩ := Int.eq_ofNat_of_zero_le hp
  obtain ⟨n, rfl⟩ := Int.eq_ofNat_of_zero_le hn
  rw [← Int.natCast_add, ← Int.natCast_sub (Int.ofNat_le.mp hpe), ← natCast_min, slice_nat, slice_nat,
    slice_nat, List.drop_take, List.take_take, List.drop_drop]

/-- `StreamWrapper.read` clips the size to the window before it reads: that changes nothing. -/
theorem slice_clip (c : List Byte) {p n : Int} (hp : 0 ≤ p) (hn : 0 ≤ n) (hpe : p ≤ c.length) :
    slice c p (min (c.length - p) n) = slice c p n := by
  obtain ⟨p, rfl⟩ := Int.eq_ofNat_of_zero_le hp
  obtain ⟨n, rfl⟩ := Int.eq_ofNat_of_zero_le hn
  rw [← Int.natCast_sub (Int.ofNat_le.mp hpe), ← natCast_min, slice_nat, slice_nat,
    List.take_eq_take_iff, List.length_drop, Nat.min_comm _ n, Nat.min_assoc, Nat.min_self]

theorem clampPos_range {eof x : Int} (h : 0 ≤ eof) : 0 ≤ clampPos eof x ∧ clampPos eof x ≤ eof := by
  unfold clampPos
  by_cases h1 : x > eof
  · rw [if_pos h1]; exact ⟨h, Int.le_refl _⟩
  by_cases h2 : x < 0
  · rw [if_neg h1, if_pos h2]; exact ⟨Int.le_refl _, h⟩
  · rw [if_neg h1, if_neg h2]; exact ⟨Int.not_lt.mp h2, Int.not_lt.mp h1⟩

theorem seekTarget_range {len p off wh : Int} (h : 0 ≤ len) :
    0 ≤ seekTarget len p off wh ∧ seekTarget len p off wh ≤ len := clampPos_range h

theorem seekTarget_abs (len p : Int) {a : Int} (h0 : 0 ≤ a) (h1 : a ≤ len) : seekTarget len p a 0 = a := by
  rw [seekTarget, if_neg (by decide), if_neg (by decide), Int.zero_add, clampPos,
    if_neg (Int.not_lt.mpr h1), if_neg (Int.not_lt.mpr h0)]

theorem mkBase_isSub (c : List Byte) (i : Nat) {ok : Nat → Cell → Prop}
    (hok : ∀ cell, ok i cell ↔ 0 ≤ cell.pos) :
    IsSub (mkBase c i) c i [i] ok where
  mem := by simp
  nonneg := fun cell h => (hok cell).mp h
  tell := fun _ => rfl
  seek := by
    intro s a hs ha
    refine ⟨a, s.set i { s i with pos := a }, ?_, hs.set i _ ((hok _).mpr ha),
      Frame.refl.set i _ (by simp), fun _ => ⟨rfl, by simp⟩⟩
    exact if_neg (Int.not_lt.mpr ha)  -- `seek a 0` is `if a < 0 then error else …` by computation
  read := by
    intro s n hs hn
    have h0 := (hok _).mp (hs i)
    exact ⟨_, rfl, by simp, hs.set i _ ((hok _).mpr (Int.add_nonneg h0 (Int.natCast_nonneg _))),
      Frame.refl.set i _ (by simp)⟩

/-- `StreamWrapper.seek`, for a class whose `_translate_addr` sends the clamped target to `a ≥ 0`. -/
theorem wrapSeek_spec {sub : FileLike} {csub : List Byte} {k : Nat} {fpk : List Nat}
    {ok : Nat → Cell → Prop} (hsub : IsSub sub csub k fpk ok) (i : Nat)
    (eof : Int) (heof0 : 0 ≤ eof) (hok : ∀ cell, ok i cell ↔ (0 ≤ cell.pos ∧ cell.pos ≤ eof))
    (tr : Int → Int → Except Err Int) (off wh : Int) (s : Store) (hinv : GInv ok s)
    (a : Int) (htr : tr 0 (seekTarget eof (s i).pos off wh) = .ok a) (ha0 : 0 ≤ a) :
    ∃ s', wrapSeek sub i eof tr off wh s = (.ok (seekTarget eof (s i).pos off wh), s') ∧
      (s' i).pos = seekTarget eof (s i).pos off wh ∧ GInv ok s' ∧ Frame (i :: fpk) s s' := by
  -- the substream runs in the store where `true_size` is already written; `ok i` only reads `pos`
  obtain ⟨r, s2, h1, h3, h4, _⟩ := hsub.seek _ a
    (hinv.set i { s i with tsize := 0 } ((hok _).mpr ((hok (s i)).mp (hinv i)))) ha0
  refine ⟨s2.set i { s2 i with pos := seekTarget eof (s i).pos off wh }, ?_, by simp,
    h3.set i _ ((hok _).mpr (clampPos_range heof0)), h4.around⟩
  rw [seekTarget] at htr
  simp only [wrapSeek, seekTarget, htr, h1]

theorem syncSub_spec {sub : FileLike} {csub : List Byte} {k : Nat} {fpk : List Nat}
    {ok : Nat → Cell → Prop} (hsub : IsSub sub csub k fpk ok) {a : Int} (ha0 : 0 ≤ a)
    {s : Store} (hinv : GInv ok s) :
    ∃ s', syncSub sub a s = (.ok (), s') ∧ GInv ok s' ∧ (a ≤ csub.length → (s' k).pos = a) ∧
      Frame fpk s s' := by
  unfold syncSub
  by_cases h : a ≠ sub.tell s
  · obtain ⟨r, s', h1, h2, h3, h4⟩ := hsub.seek s a hinv ha0
    exact ⟨s', by rw [if_pos h, h1], h2, fun h => (h4 h).2, h3⟩
  · exact ⟨s, if_neg h, hinv, fun _ => by rw [← hsub.tell, Decidable.not_not.mp h], Frame.refl⟩

/-- `StreamWrapper.read`, for a class whose `_read` (`raw`) returns `bytes` once the substream stands
at the translated position `a ≥ 0`. -/
theorem wrapRead_ok {sub : FileLike} {csub : List Byte} {k : Nat} {fpk : List Nat}
    {ok : Nat → Cell → Prop} (hsub : IsSub sub csub k fpk ok) (i : Nat)
    (eof : Int) (hok : ∀ cell, ok i cell ↔ (0 ≤ cell.pos ∧ cell.pos ≤ eof))
    (tr : Int → Int → Except Err Int)
    (raw : Int → Int → Store → Res (List Byte)) (n : Int) (hn : 0 ≤ n) (s : Store) (hinv : GInv ok s)
    (a : Int) (htr : tr (min (eof - (s i).pos) n) (s i).pos = .ok a) (ha0 : 0 ≤ a)
    (bytes : List Byte)
    (hraw : ∀ s2, GInv ok s2 → (a ≤ csub.length → (s2 k).pos = a) →
      ∃ s3, raw (s i).pos (min (eof - (s i).pos) n) s2 = (.ok bytes, s3) ∧ GInv ok s3 ∧ Frame fpk s2 s3) :
    ∃ s', wrapRead sub i eof tr raw n s = (.ok bytes, s') ∧
      (s' i).pos = (s i).pos + min (eof - (s i).pos) n ∧ GInv ok s' ∧ Frame (i :: fpk) s s' := by
  obtain ⟨hp0, hp1⟩ := (hok _).mp (hinv i)
  have hm0 : 0 ≤ min (eof - (s i).pos) n := Int.le_min.mpr ⟨Int.sub_nonneg.mpr hp1, hn⟩
  have hm1 : (s i).pos + min (eof - (s i).pos) n ≤ eof := Int.add_le_of_le_sub_left (Int.min_le_left ..)
  -- as in `wrapSeek_spec`: `true_size` is written first
  obtain ⟨s2, hst, hinv2, hpos2, hfr2⟩ := syncSub_spec hsub ha0
    (hinv.set i { s i with tsize := min (eof - (s i).pos) n } ((hok _).mpr ⟨hp0, hp1⟩))
  obtain ⟨s3, hr, hinv3, hfr3⟩ := hraw s2 hinv2 hpos2
  refine ⟨s3.set i { s3 i with pos := (s i).pos + min (eof - (s i).pos) n }, ?_, by simp,
    hinv3.set i _ ((hok _).mpr ⟨Int.add_nonneg hp0 hm0, hm1⟩), (hfr2.trans hfr3).around⟩
  simp only [wrapRead, Int.not_lt.mpr hm0, if_false, htr, hst, hr]

/-- `wrapRead_ok` for a fresh cell and a non-empty window (neither is used). -/
theorem wrapRead_spec {sub : FileLike} {csub : List Byte} {k : Nat} {fpk : List Nat}
    {ok : Nat → Cell → Prop} (hsub : IsSub sub csub k fpk ok) (i : Nat) (hi : i ∉ fpk)
    (eof : Int) (heof : 0 < eof) (hok : ∀ cell, ok i cell ↔ (0 ≤ cell.pos ∧ cell.pos ≤ eof))
    (tr : Int → Int → Except Err Int)
    (raw : Int → Int → Store → Res (List Byte)) (n : Int) (hn : 0 ≤ n) (s : Store) (hinv : GInv ok s)
    (a : Int) (htr : tr (min (eof - (s i).pos) n) (s i).pos = .ok a) (ha0 : 0 ≤ a)
    (bytes : List Byte)
    (hraw : ∀ s2, GInv ok s2 → (a ≤ csub.length → (s2 k).pos = a) →
      ∃ s3, raw (s i).pos (min (eof - (s i).pos) n) s2 = (.ok bytes, s3) ∧ GInv ok s3 ∧ Frame fpk s2 s3) :
    ∃ s', wrapRead sub i eof tr raw n s = (.ok bytes, s') ∧
      (s' i).pos = (s i).pos + min (eof - (s i).pos) n ∧ GInv ok s' ∧ Frame (i :: fpk) s s' :=
  wrapRead_ok hsub i eof hok tr raw n hn s hinv a htr ha0 bytes hraw

/-- Every window class is a read-only file: if `_translate_addr` is `g` and `_read`, started with the
substream at `g p`, returns `c[p : p+n]` for every request inside the window, then `StreamWrapper`
supplies the clamped seeks, the clipping of reads at the end, and the footprint. -/
theorem window_isFile {sub : FileLike} {csub : List Byte} {k : Nat} {fpk : List Nat}
    {ok : Nat → Cell → Prop} (hsub : IsSub sub csub k fpk ok) (i : Nat)
    (eof : Int) (hok : ∀ cell, ok i cell ↔ (0 ≤ cell.pos ∧ cell.pos ≤ eof))
    {c : List Byte} (hlen : (c.length : Int) = eof)
    (g : Int → Int) (hg : ∀ p, 0 ≤ p → 0 ≤ g p)
    {raw : Int → Int → Store → Res (List Byte)}
    (hraw : ∀ (p n : Int) (s2 : Store), 0 ≤ p → 0 ≤ n → p + n ≤ eof → GInv ok s2 →
      (g p ≤ csub.length → (s2 k).pos = g p) →
      ∃ s3, raw p n s2 = (.ok (slice c p n), s3) ∧ GInv ok s3 ∧ Frame fpk s2 s3) :
    IsFile ⟨fun s => (s i).pos, wrapSeek sub i eof fun _ a => .ok (g a),
      wrapRead sub i eof (fun _ a => .ok (g a)) raw⟩ c i (i :: fpk) ok := by
  subst hlen
  have hseekFull s (o wh : Int) (hs : GInv ok s) :=
    wrapSeek_spec hsub i c.length (Int.natCast_nonneg _) hok (fun _ a => .ok (g a)) o wh s hs _ rfl
      (hg _ (seekTarget_range (Int.natCast_nonneg _)).1)
  refine
    { mem := List.mem_cons_self ..
      nonneg := fun cell h => ((hok cell).mp h).1
      tell := fun _ => rfl
      seek := ?_
      read := ?_
      bound := fun cell h => ((hok cell).mp h).2
      seekFull := hseekFull }
  · -- an absolute seek inside the window is not clamped
    intro s a hs ha0
    obtain ⟨s', e1, e2, e3, e4⟩ := hseekFull s a 0 hs
    refine ⟨_, s', e1, e3, e4, fun ha1 => ?_⟩
    have e := seekTarget_abs c.length (s i).pos ha0 ha1
    exact ⟨e, e ▸ e2⟩
  · -- the size is clipped to what is left of the window; the content ends there too
    intro s n hs hn
    obtain ⟨h2, h3⟩ := (hok _).mp (hs i)
    have hclip := slice_clip c h2 hn h3
    have hm0 : 0 ≤ min (c.length - (s i).pos) n := Int.le_min.mpr ⟨Int.sub_nonneg.mpr h3, hn⟩
    have hm1 : (s i).pos + min (c.length - (s i).pos) n ≤ c.length :=
      Int.add_le_of_le_sub_left (Int.min_le_left ..)
    obtain ⟨s', e1, e2, e3, e4⟩ := wrapRead_ok hsub i c.length hok (fun _ a => .ok (g a)) raw
      n hn s hs _ rfl (hg _ h2) _ (fun s2 => hraw (s i).pos (min (c.length - (s i).pos) n) s2 h2 hm0 hm1)
    rw [hclip] at e1
    refine ⟨s', e1, ?_, e3, e4⟩
    rw [e2, ← hclip, slice_length_of_le c h2 hm0 hm1]

end Smpl.Stream
