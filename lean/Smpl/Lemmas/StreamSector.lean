/- `SectorStream` and the classes built on it (C08; C01 states the content of a chained file as
`secContent`). -/
import Smpl.Lemmas.StreamWrappers
import Smpl.Lemmas.Rows

namespace Smpl.Stream

/-- content of a sector-chained view: the sectors at byte addresses `bases` of the substream. -/
def secContent (csub : List Byte) (L : Nat) (bases : List Nat) : List Byte :=
  (bases.map fun b => (csub.drop b).take L).flatten

theorem secContent_segs {csub : List Byte} {L : Nat} {bases : List Nat} (hb : ∀ b ∈ bases, b + L ≤ csub.length) :
    ∀ g ∈ bases.map (fun b => (csub.drop b).take L), g.length = L := by
  intro g hg
  obtain ⟨b, hbm, rfl⟩ := List.mem_map.mp hg
  rw [List.length_take, List.length_drop, Nat.min_eq_left (Nat.le_sub_of_add_le' (hb b hbm))]

theorem secContent_length {csub : List Byte} {L : Nat} {bases : List Nat}
    (hb : ∀ b ∈ bases, b + L ≤ csub.length) : (secContent csub L bases).length = bases.length * L := by
  rw [secContent, Rows.flatten_length (secContent_segs hb), List.length_map]

theorem secContent_piece {csub : List Byte} {L : Nat} {bases : List Nat}
    (hb : ∀ b ∈ bases, b + L ≤ csub.length) {pos n : Nat} (hidx : pos / L < bases.length) (hn : pos % L + n ≤ L) :
    ((secContent csub L bases).drop pos).take n = (csub.drop (bases[pos / L] + pos % L)).take n := by
  have h := Rows.flatten_seg (secContent_segs hb) (pos / L) (pos % L) n
    (by simpa using hidx) hn
  rw [Nat.mul_comm, Nat.div_add_mod] at h
  rw [secContent, h, List.getElem_map, List.drop_take, List.drop_drop, List.take_take,
    Nat.min_eq_left (Nat.le_sub_of_add_le' hn)]

def basesAddr (bases : List Nat) (idx off : Nat) : Except Err Int :=
  match bases[idx]? with
  | none => .error .index
  | some b => .ok ((b + off : Nat) : Int)

theorem basesAddr_ok (bases : List Nat) (idx off : Nat) (h : idx < bases.length) :
    basesAddr bases idx off = .ok ((bases[idx] + off : Nat) : Int) := by
  simp [basesAddr, List.getElem?_eq_getElem h]

/-- the first piece of a read plan, `min size (L - off)` bytes at offset `off` of its sector: not empty,
not more than asked for, inside the sector. -/
theorem firstPiece_bounds {size L off : Nat} (hs : size ≠ 0) (hoff : off < L) :
    0 < min size (L - off) ∧ min size (L - off) ≤ size ∧ off + min size (L - off) ≤ L :=
  ⟨Nat.lt_min.mpr ⟨Nat.pos_of_ne_zero hs, Nat.sub_pos_of_lt hoff⟩, Nat.min_le_left ..,
    Nat.add_le_of_le_sub' (Nat.le_of_lt hoff) (Nat.min_le_right ..)⟩

/-- The read plan of `SectorStream._read` returns the requested slice of the concatenated sectors, for
any position and size inside the view, any sector size, any order of the sectors. -/
theorem readPieces_spec {sub : FileLike} {csub : List Byte} {k : Nat} {fpk : List Nat}
    {ok : Nat → Cell → Prop} (hsub : IsSub sub csub k fpk ok) (L : Nat) (hL : 0 < L)
    (bases : List Nat) (hb : ∀ b ∈ bases, b + L ≤ csub.length)
    (addr : Nat → Nat → Except Err Int)
    (haddrs : ∀ idx off (h : idx < bases.length), addr idx off = .ok ((bases[idx] + off : Nat) : Int))
    (fuel pos size : Nat) (hf : size ≤ fuel) (hin : pos + size ≤ bases.length * L)
    (s : Store) (hinv : GInv ok s) :
    ∃ s', readPieces sub addr (pieces L fuel pos size) s
        = (.ok (((secContent csub L bases).drop pos).take size), s') ∧ GInv ok s' ∧ Frame fpk s s' := by
  induction fuel generalizing pos size s with
  | zero =>
    obtain rfl := Nat.le_zero.mp hf
    exact ⟨s, rfl, hinv, Frame.refl⟩
  | succ fuel ih =>
    unfold pieces
    by_cases hs : size = 0
    · subst hs
      exact ⟨s, rfl, hinv, Frame.refl⟩
    · simp only [hs, if_false]
      -- the first piece: `n` bytes from offset `pos % L` of sector `pos / L`
      have hoff : pos % L < L := Nat.mod_lt _ hL
      have hidx : pos / L < bases.length := (Nat.div_lt_iff_lt_mul hL).mpr
        (Nat.lt_of_lt_of_le (Nat.lt_add_of_pos_right (Nat.pos_of_ne_zero hs)) hin)
      have hbb := hb _ (List.getElem_mem hidx)
      obtain ⟨hn0, hn1, hn2⟩ := firstPiece_bounds hs hoff
      generalize min size (L - pos % L) = n at hn0 hn1 hn2 ⊢
      obtain ⟨r, s1, h1, hi1, hf1, hx1⟩ :=
        hsub.seek s ((bases[pos / L] + pos % L : Nat) : Int) hinv (Int.natCast_nonneg _)
      obtain ⟨s2, h2, _, hi2, hf2⟩ := hsub.read s1 (n : Int) hi1 (Int.natCast_nonneg _)
      have hx := hx1 (Int.ofNat_le.mpr (Nat.le_trans (Nat.add_le_add_left (Nat.le_of_lt hoff) _) hbb))
      rw [hx.2, slice_nat, ← secContent_piece hb hidx hn2] at h2
      obtain ⟨s3, h3, hi3, hf3⟩ := ih (pos + n) (size - n)
        (Nat.sub_le_of_le_add (Nat.le_trans hf (Nat.add_le_add_left hn0 _)))
        (by rw [Nat.add_assoc, Nat.add_sub_of_le hn1]; exact hin) s2 hi2
      refine ⟨s3, ?_, hi3, (hf1.trans hf2).trans hf3⟩
      simp only [readPieces, haddrs _ _ hidx, h1, h2, h3]
      rw [← List.drop_drop, ← List.take_add, Nat.add_sub_cancel' hn1]

theorem sectorRaw_spec {sub : FileLike} {csub : List Byte} {k : Nat} {fpk : List Nat}
    {ok : Nat → Cell → Prop} (hsub : IsSub sub csub k fpk ok) {L : Nat} (hL : 0 < L)
    {bases : List Nat} (hb : ∀ b ∈ bases, b + L ≤ csub.length)
    {addr : Nat → Nat → Except Err Int}
    (haddrs : ∀ idx off (h : idx < bases.length), addr idx off = .ok ((bases[idx] + off : Nat) : Int))
    {pos size : Int} (hp : 0 ≤ pos) (hs0 : 0 ≤ size) (hin : pos + size ≤ (bases.length * L : Nat))
    {s : Store} (hinv : GInv ok s) :
    ∃ s', sectorRaw sub L addr pos size s
        = (.ok (slice (secContent csub L bases) pos size), s') ∧ GInv ok s' ∧ Frame fpk s s' := by
  obtain ⟨pos, rfl⟩ := Int.eq_ofNat_of_zero_le hp
  obtain ⟨size, rfl⟩ := Int.eq_ofNat_of_zero_le hs0
  have hin : pos + size ≤ bases.length * L := by exact_mod_cast hin
  rw [slice_nat, sectorRaw]
  by_cases h0 : (size : Int) ≤ 0
  · obtain rfl : size = 0 := Int.natCast_nonpos_iff.mp h0
    exact ⟨s, rfl, hinv, Frame.refl⟩
  · obtain ⟨s', h1, h2, h3⟩ := readPieces_spec hsub L hL bases hb addr haddrs size pos size
      (Nat.le_refl _) hin s hinv
    refine ⟨s', ?_, h2, h3⟩
    -- the plan delivered `size` bytes, so the length check passes
    have hlen : (((secContent csub L bases).drop pos).take size).length = size := by
      rw [List.length_take, List.length_drop, secContent_length hb,
        Nat.min_eq_left (Nat.le_sub_of_add_le' hin)]
    simp only [if_neg h0, Int.toNat_natCast, h1, hlen, ne_eq, not_true_eq_false, if_false]

theorem sector_isFile {sub : FileLike} {csub : List Byte} {k : Nat} {fpk : List Nat}
    {ok : Nat → Cell → Prop} (hsub : IsSub sub csub k fpk ok) (i : Nat)
    (L : Nat) (hL : 0 < L) {bases : List Nat} (hb : ∀ b ∈ bases, b + L ≤ csub.length)
    {addr : Nat → Nat → Except Err Int}
    (haddrs : ∀ idx off (h : idx < bases.length), addr idx off = .ok ((bases[idx] + off : Nat) : Int))
    {eof : Int} (heofv : eof = (bases.length * L : Nat))
    (hok : ∀ cell, ok i cell ↔ (0 ≤ cell.pos ∧ cell.pos ≤ eof)) :
    IsFile ⟨fun s => (s i).pos, wrapSeek sub i eof trId, wrapRead sub i eof trId (sectorRaw sub L addr)⟩
      (secContent csub L bases) i (i :: fpk) ok := by
  subst heofv
  exact window_isFile hsub i _ hok
    (by rw [secContent_length hb]) id (fun _ h => h)
    fun _ _ _ hp hn hpn hs2 _ => sectorRaw_spec hsub hL hb haddrs hp hn hpn hs2

/-- `FileStream(parent, L, secs)` is a read-only file over the concatenation of its sectors in chain
order, whatever that order. -/
theorem mkChain_isFile {sub : FileLike} {csub : List Byte} {k : Nat} {fpk : List Nat}
    {ok : Nat → Cell → Prop} (hsub : IsSub sub csub k fpk ok) (i : Nat) (hi : i ∉ fpk)
    (L : Nat) (hL : 0 < L) (secs : List Nat) (hne : secs ≠ [])
    (hb : ∀ sct ∈ secs, (sct + 1) * L ≤ csub.length)
    (hok : ∀ cell, ok i cell ↔ (0 ≤ cell.pos ∧ cell.pos ≤ ((L * secs.length : Nat) : Int))) :
    IsFile (mkChain sub i L secs) (secContent csub L (secs.map (· * L))) i (i :: fpk) ok := by
  refine sector_isFile hsub i L hL ?_ ?_ (by rw [List.length_map, Nat.mul_comm]) hok
  · intro b hbm
    obtain ⟨sct, hs, rfl⟩ := List.mem_map.mp hbm
    exact Nat.succ_mul sct L ▸ hb sct hs
  · intro idx off h
    have h' : idx < secs.length := List.length_map (· * L) ▸ h
    simp only [chainAddr, List.getElem?_eq_getElem h', List.getElem_map]

/-- sector `idx` is the `L` bytes at offset `H` of frame `idx` of `S` bytes: the plain `SectorStream`
(`S = L`, `H = 0`) and the raw-sector view `MdfStream` (2048 at 16 of 2352). -/
theorem strided_isFile {sub : FileLike} {csub : List Byte} {k : Nat} {fpk : List Nat}
    {ok : Nat → Cell → Prop} (hsub : IsSub sub csub k fpk ok) (i : Nat)
    (S H L : Nat) (hL : 0 < L) (hHL : H + L ≤ S) (nsec : Nat) (hb : nsec * S ≤ csub.length)
    (hok : ∀ cell, ok i cell ↔ (0 ≤ cell.pos ∧ cell.pos ≤ ((nsec * L : Nat) : Int))) :
    IsFile ⟨fun s => (s i).pos, wrapSeek sub i ((nsec * L : Nat) : Int) trId,
        wrapRead sub i ((nsec * L : Nat) : Int) trId
          (sectorRaw sub L fun idx off => .ok ((idx * S + H + off : Nat) : Int))⟩
      (secContent csub L ((List.range nsec).map (· * S + H))) i (i :: fpk) ok := by
  refine sector_isFile hsub i L hL ?_ ?_ (by rw [List.length_map, List.length_range]) hok
  · intro b hbm
    obtain ⟨j, hj, rfl⟩ := List.mem_map.mp hbm
    rw [Nat.add_assoc]
    exact Nat.le_trans (Nat.add_le_add_left hHL _)
      (Nat.le_trans (Rows.mul_add_le_of_lt (List.mem_range.mp hj) S) hb)
  · intro idx off h
    rw [List.getElem_map, List.getElem_range]

theorem mkMdf_isFile {sub : FileLike} {csub : List Byte} {k : Nat} {fpk : List Nat}
    {ok : Nat → Cell → Prop} (hsub : IsSub sub csub k fpk ok) (i : Nat) (hi : i ∉ fpk)
    (nsec : Nat) (hne : 0 < nsec) (hb : nsec * MDF_SECTOR ≤ csub.length)
    (hok : ∀ cell, ok i cell ↔ (0 ≤ cell.pos ∧ cell.pos ≤ ((nsec * MDF_BODY : Nat) : Int))) :
    IsFile (mkMdf sub i ((nsec * MDF_BODY : Nat) : Int))
      (secContent csub MDF_BODY ((List.range nsec).map (· * MDF_SECTOR + MDF_HEADER))) i (i :: fpk) ok :=
  strided_isFile hsub i MDF_SECTOR MDF_HEADER MDF_BODY (by decide) (by decide) nsec hb hok

theorem mkSector_isFile {sub : FileLike} {csub : List Byte} {k : Nat} {fpk : List Nat}
    {ok : Nat → Cell → Prop} (hsub : IsSub sub csub k fpk ok) (i : Nat) (hi : i ∉ fpk)
    (L : Nat) (hL : 0 < L) (nsec : Nat) (hne : 0 < nsec) (hb : nsec * L ≤ csub.length)
    (hok : ∀ cell, ok i cell ↔ (0 ≤ cell.pos ∧ cell.pos ≤ ((nsec * L : Nat) : Int))) :
    IsFile (mkSector sub i ((nsec * L : Nat) : Int) L)
      (secContent csub L ((List.range nsec).map (· * L))) i (i :: fpk) ok :=
  strided_isFile hsub i L 0 L hL (Nat.le_of_eq (Nat.zero_add L)) nsec hb hok

end Smpl.Stream
