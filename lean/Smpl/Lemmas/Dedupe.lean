/-
Sibling de-duplication (`dedupe`), for C06: what its loop maintains (`dedupe_reserved`), of which the
distinctness and the character set of the assigned names are instances.
-/
import Smpl.Model.Names

namespace Smpl.Names

-- `out`: pairs (element, assigned name); a group: (key, its elements)
abbrev outNames (out : List (Nat × Name)) : List Name := out.map (·.2)
abbrev outIdxs (out : List (Nat × Name)) : List Nat := out.map (·.1)
abbrev members (groups : List (Name × List Nat)) : List Nat := groups.flatMap (·.2)

theorem nextFree_spec {name : Name} {used : List Name} {fuel i i2 : Nat} {nm : Name}
    (h : nextFree name used fuel i = some (i2, nm)) : nm = addCount name i2 ∧ nm ∉ used ∧ i ≤ i2 := by
  induction fuel generalizing i with
  | zero => simp [nextFree] at h
  | succ f ih =>
    simp only [nextFree] at h
    split at h
    · exact (ih h).imp_right (.imp_right Nat.le_of_succ_le)
    · rename_i hc
      cases h
      exact ⟨rfl, by simpa using hc, Nat.le_refl _⟩

theorem assignGroup_append (name : Name) (pre : List (Nat × Name)) :
    ∀ (ms : List Nat) (i : Nat) (used : List Name) (acc : List (Nat × Name)),
      assignGroup name ms i used (pre ++ acc)
        = (assignGroup name ms i used acc).map fun r => (r.1, pre ++ r.2) := by
  intro ms
  induction ms with
  | nil => intro i used acc; rfl
  | cons e es ih =>
    intro i used acc
    simp only [assignGroup, List.append_assoc]
    split
    · split
      · rfl
      · exact ih ..
    · exact ih ..

theorem assignGroup_first (name : Name) (e : Nat) (es : List Nat) (used : List Name) (out : List (Nat × Name)) :
    assignGroup name (e :: es) 0 used out = assignGroup name es 1 used (out ++ [(e, name)]) := by
  simp [assignGroup]

theorem dedupe_loop_cons (name : Name) (e : Nat) (es : List Nat) (gs : List (Name × List Nat))
    (used : List Name) (out : List (Nat × Name)) :
    dedupe.loop ((name, e :: es) :: gs) used out =
      match assignGroup name es 1 used (out ++ [(e, name)]) with
      | .error err => .error err
      | .ok (used', out') => dedupe.loop gs used' out' := by
  cases es with
  | nil => rfl
  | cons e2 es =>
    simp only [dedupe.loop, assignGroup_first, List.nil_append]
    rw [assignGroup_append name out]
    cases assignGroup name (e2 :: es) 1 used [(e, name)] <;> rfl

section reserved
/- `R used (given ++ toCome)`: see `dedupe_reserved`. -/
variable {R : List Name → List Name → Prop}
  (fresh : ∀ used given toCome name k, name ∈ given → addCount name k ∉ used → R used (given ++ toCome) →
    R (addCount name k :: used) (given ++ addCount name k :: toCome))
include fresh

theorem assignGroup_reserved {name : Name} (K : List Name) {ms : List Nat} {i : Nat} {used used' : List Name}
    {out out' : List (Nat × Name)} (h : assignGroup name ms i used out = .ok (used', out')) (hi : 0 < i)
    (hname : name ∈ outNames out) (hR : R used (outNames out ++ K)) :
    R used' (outNames out' ++ K) ∧ outIdxs out' = outIdxs out ++ ms := by
  induction ms generalizing i used out with
  | nil =>
    cases h
    exact ⟨hR, by simp⟩
  | cons e es ih =>
    have hi1 : i + 1 > 1 := Nat.lt_add_of_pos_left hi
    simp only [assignGroup, hi1, if_true] at h
    split at h
    · cases h
    · rename_i i2 nm hnf
      obtain ⟨rfl, hfree, hle⟩ := nextFree_spec hnf
      have := ih h (Nat.zero_lt_of_lt hle) (by simp [hname]) (by simpa using fresh used _ K name i2 hname hfree hR)
      simpa using this

theorem dedupe_loop_reserved {gs : List (Name × List Nat)} {used : List Name} {out out' : List (Nat × Name)}
    (h : dedupe.loop gs used out = .ok out') (hne : ∀ g ∈ gs, g.2 ≠ [])
    (hR : R used (outNames out ++ gs.map (·.1))) :
    (∃ used', R used' (outNames out')) ∧ outIdxs out' = outIdxs out ++ members gs := by
  induction gs generalizing used out with
  | nil =>
    cases h
    exact ⟨⟨used, by simpa using hR⟩, by simp⟩
  | cons g gs ih =>
    obtain ⟨name, ms⟩ := g
    cases ms with
    | nil => exact absurd rfl (hne _ List.mem_cons_self)
    | cons e es =>
      rw [dedupe_loop_cons] at h
      split at h
      · cases h
      · rename_i used1 out1 hag
        -- the key moves from "to come" to "given": the reserved list is the same
        obtain ⟨hR1, hidx⟩ := assignGroup_reserved fresh (gs.map (·.1)) hag Nat.one_pos
          (List.mem_map_of_mem (List.mem_append_right _ List.mem_cons_self)) (by simpa using hR)
        obtain ⟨hR', hidx'⟩ := ih h (fun g hg => hne g (List.mem_cons_of_mem _ hg)) hR1
        exact ⟨hR', by simp [hidx', hidx]⟩

end reserved

structure GInv (cands : List Name) (n : Nat) (acc : List (Name × List Nat)) : Prop where
  keys  : (acc.map (·.1)).Nodup
  cand  : ∀ g ∈ acc, g.1 ∈ cands
  part  : (members acc).Perm (List.range n)
  ne    : ∀ g ∈ acc, g.2 ≠ []

/-- the update in `groupBy.go`, verbatim. -/
def upd (c : Name) (i : Nat) : Name × List Nat → Name × List Nat :=
  fun (k, v) => if k == c then (k, v ++ [i]) else (k, v)

theorem groupBy_go_cons (i : Nat) (acc : List (Name × List Nat)) (c : Name) (cs : List Name) :
    groupBy.go i acc (c :: cs)
      = groupBy.go (i + 1) (if acc.any (·.1 == c) then acc.map (upd c i) else acc ++ [(c, [i])]) cs := rfl

theorem upd_fst (c : Name) (i : Nat) (g : Name × List Nat) : (upd c i g).1 = g.1 := by
  obtain ⟨k, v⟩ := g
  simp only [upd]; split <;> rfl

theorem upd_snd_ne_nil (c : Name) (i : Nat) {g : Name × List Nat} (h : g.2 ≠ []) : (upd c i g).2 ≠ [] := by
  obtain ⟨k, v⟩ := g
  simp only [upd]; split
  · simp
  · exact h

theorem members_upd {c : Name} {i : Nat} {acc : List (Name × List Nat)} (hkeys : (acc.map (·.1)).Nodup)
    (hc : c ∈ acc.map (·.1)) : (members (acc.map (upd c i))).Perm (members acc ++ [i]) := by
  induction acc with
  | nil => cases hc
  | cons g gs ih =>
    obtain ⟨k, v⟩ := g
    obtain ⟨hk, hkeys'⟩ := List.nodup_cons.mp hkeys
    by_cases hkc : k = c
    · -- the group is here, and nowhere further on
      subst hkc
      have hrest : gs.map (upd k i) = gs := by
        rw [List.map_congr_left (g := id), List.map_id]
        rintro ⟨k', v'⟩ hg
        have : k' ≠ k := fun e => hk (List.mem_map.mpr ⟨_, hg, e⟩)
        simp [upd, this]
      simp only [List.map_cons, hrest, List.flatMap_cons, upd, beq_iff_eq, if_true,
        List.append_assoc]
      exact (List.perm_append_comm (l₁ := [i])).append_left v
    · have hc' : c ∈ gs.map (·.1) := by
        rcases List.mem_cons.mp hc with e | h
        · exact absurd e.symm hkc
        · exact h
      simp only [List.map_cons, List.flatMap_cons, upd, beq_iff_eq, hkc, if_false, List.append_assoc]
      exact (ih hkeys' hc').append_left v

theorem groupBy_go_spec (cands : List Name) :
    ∀ (cs : List Name) (n : Nat) (acc : List (Name × List Nat)), (∀ c ∈ cs, c ∈ cands) →
      GInv cands n acc → GInv cands (n + cs.length) (groupBy.go n acc cs) := by
  intro cs
  induction cs with
  | nil => intro n acc _ h; exact h
  | cons c cs ih =>
    intro n acc hcs h
    rw [groupBy_go_cons, List.length_cons, ← Nat.add_assoc, Nat.add_right_comm]
    apply ih (n + 1) _ (fun x hx => hcs x (List.mem_cons_of_mem _ hx))
    have hkey : acc.any (·.1 == c) = true ↔ c ∈ acc.map (·.1) := by
      simp only [List.any_eq_true, List.mem_map, beq_iff_eq]
    split
    · rename_i hany
      have hc := hkey.mp hany
      refine ⟨?_, ?_, ?_, ?_⟩
      · rw [List.map_map]; exact (List.map_congr_left fun g _ => upd_fst c n g) ▸ h.keys
      · exact List.forall_mem_map.mpr fun g hg => (upd_fst c n g).symm ▸ h.cand g hg
      · rw [List.range_succ]
        exact (members_upd h.keys hc).trans (h.part.append_right _)
      · exact List.forall_mem_map.mpr fun g hg => upd_snd_ne_nil c n (h.ne g hg)
    · rename_i hany
      have hc := mt hkey.mpr hany
      refine ⟨?_, ?_, ?_, ?_⟩
      · rw [List.map_append]
        exact (List.perm_append_singleton _ _).nodup_iff.mpr (List.nodup_cons.mpr ⟨hc, h.keys⟩)
      · exact List.forall_mem_append.mpr
          ⟨h.cand, fun _ hg => List.mem_singleton.mp hg ▸ hcs c List.mem_cons_self⟩
      · rw [List.range_succ]
        simpa using h.part.append_right [n]
      · exact List.forall_mem_append.mpr ⟨h.ne, fun _ hg => List.mem_singleton.mp hg ▸ List.cons_ne_nil _ _⟩

theorem groupBy_spec (cands : List Name) : GInv cands cands.length (groupBy cands) := by
  have := groupBy_go_spec cands cands 0 [] (fun _ h => h) ⟨by simp, by simp, by simp, by simp⟩
  simpa [groupBy] using this

theorem find?_fst_of_nodup {β : Type} (d : β) {out : List (Nat × β)} (hnd : (out.map (·.1)).Nodup) :
    ((out.map (·.1)).map fun i => ((out.find? (·.1 == i)).map (·.2)).getD d) = out.map (·.2) := by
  rw [List.map_map]
  apply List.map_congr_left
  intro p hp
  have : out.find? (·.1 == p.1) = some p := by
    induction out with
    | nil => cases hp
    | cons q qs ih =>
      obtain ⟨hq, hnd'⟩ := List.nodup_cons.mp hnd
      rcases List.mem_cons.mp hp with rfl | hp
      · exact List.find?_cons_of_pos (beq_iff_eq.mpr rfl)
      · have : (q.1 == p.1) = false := beq_false_of_ne fun e => hq (List.mem_map.mpr ⟨p, hp, e.symm⟩)
        rw [List.find?_cons, this]
        exact ih hnd' hp
  simp [this]

/-- **What `dedupe` maintains.** *Reserved*: the names given out so far, then the keys of the groups to
come — at the start the keys (as is `used`), at the end, up to order, the result. A group's first
member takes its key, which leaves the reserved list as it is; every other member takes a counted
name not in `used`, which is inserted (`fresh`). -/
theorem dedupe_reserved (R : List Name → List Name → Prop)
    (fresh : ∀ used given toCome name k, name ∈ given → addCount name k ∉ used → R used (given ++ toCome) →
      R (addCount name k :: used) (given ++ addCount name k :: toCome))
    {cands res : List Name} (h : dedupe cands = .ok res)
    (h0 : ∀ keys : List Name, keys.Nodup → (∀ k ∈ keys, k ∈ cands) → R keys keys) :
    ∃ used given, R used given ∧ res.Perm given ∧ res.length = cands.length := by
  unfold dedupe at h
  simp only at h
  split at h
  · cases h
  · rename_i out hl
    cases h
    have g := groupBy_spec cands
    obtain ⟨⟨used, hR⟩, hidx⟩ :=
      dedupe_loop_reserved fresh hl g.ne (h0 _ g.keys (List.forall_mem_map.mpr g.cand))
    have hperm : (List.range cands.length).Perm (outIdxs out) := by rw [hidx]; exact g.part.symm
    refine ⟨used, outNames out, hR, ?_, by simp⟩
    exact (hperm.map _).trans (.of_eq (find?_fst_of_nodup [] (hperm.nodup_iff.mp List.nodup_range)))

/-- **the assigned names of siblings are pairwise distinct**, one per sibling. -/
theorem dedupe_nodup (cands : List Name) (res : List Name) (h : dedupe cands = .ok res) :
    res.Nodup ∧ res.length = cands.length := by
  -- a name that is not in use is not reserved
  have fresh : ∀ (used given toCome : List Name) name k, name ∈ given → addCount name k ∉ used →
      ((given ++ toCome).Nodup ∧ ∀ x ∈ given ++ toCome, x ∈ used) →
      (given ++ addCount name k :: toCome).Nodup ∧
        ∀ x ∈ given ++ addCount name k :: toCome, x ∈ addCount name k :: used := by
    intro used given toCome name k _ hfree ⟨hnd, hsub⟩
    refine ⟨List.perm_middle.nodup_iff.mpr (List.nodup_cons.mpr ⟨fun hx => hfree (hsub _ hx), hnd⟩), ?_⟩
    intro x hx
    rcases List.mem_cons.mp (List.perm_middle.mem_iff.mp hx) with hx | hx
    · exact hx ▸ List.mem_cons_self
    · exact List.mem_cons_of_mem _ (hsub x hx)
  obtain ⟨used, given, ⟨hnd, _⟩, hperm, hlen⟩ :=
    dedupe_reserved (fun used L => L.Nodup ∧ ∀ x ∈ L, x ∈ used) fresh h
      (fun _ hk _ => ⟨hk, fun _ hx => hx⟩)
  exact ⟨hperm.nodup_iff.mpr hnd, hlen⟩

end Smpl.Names
