/-
What the stereo-name rule (`stereoMatch`) recognises, and one case analysis of the loop of `combine`
(`combine_go_induct`), of which C05 and the mono case of C01 are instances.
-/
import Smpl.Model.Names
import Smpl.Lemmas.Trim

namespace Smpl.Names

theorem side_not_ws {sd : Char} (h : sd = 'L' ∨ sd = 'R') : isWs sd = false := by
  rcases h with rfl | rfl <;> decide

/-- **What `_STEREO_FILENAME` matches**: `stem ++ sep ++ [L|R] ++ blanks`, `sep` a non-empty run of
separators that the stem does not prolong (`(.*?)` is lazy, `[\s-]+` greedy), no line feed in the stem. -/
theorem stereoMatch_eq_some_iff {s stem sep : Name} {side : Char} :
    stereoMatch s = some (stem, sep, side) ↔
      (sep ≠ [] ∧ (∀ c ∈ sep, isSep c = true) ∧ (side = 'L' ∨ side = 'R') ∧
        (∀ c, stem.getLast? = some c → isSep c = false) ∧ (∀ c ∈ stem, c ≠ '\n')) ∧
      ∃ ws, (∀ c ∈ ws, isWs c = true) ∧ s = stem ++ sep ++ [side] ++ ws := by
  constructor
  · intro h
    cases hr : s.reverse.dropWhile isWs with
    | nil => simp [stereoMatch, hr] at h
    | cons sd rest =>
      obtain ⟨hside, ⟨hne, hnl⟩, rfl, rfl, rfl⟩ : (sd = 'L' ∨ sd = 'R') ∧
          (rest.takeWhile isSep ≠ [] ∧ '\n' ∉ rest.dropWhile isSep) ∧
          (rest.dropWhile isSep).reverse = stem ∧ (rest.takeWhile isSep).reverse = sep ∧ sd = side := by
        simpa [stereoMatch, hr] using h
      refine ⟨⟨by simpa using hne, fun c hc => mem_takeWhile (List.mem_reverse.mp hc), hside, fun c hc => ?_,
        fun c hc e => hnl (e ▸ List.mem_reverse.mp hc)⟩,
        (s.reverse.takeWhile isWs).reverse, fun c hc => mem_takeWhile (List.mem_reverse.mp hc), ?_⟩
      · have := List.head?_dropWhile_not isSep rest
        rw [← List.getLast?_reverse, hc] at this
        exact this
      · apply List.reverse_inj.mp
        simp [List.takeWhile_append_dropWhile, ← hr]
  · rintro ⟨⟨hsep, hall, hsd, hlast, hnl⟩, ws, hws, rfl⟩
    have h1 := (span_append (p := isWs) (a := ws.reverse) (b := side :: (sep.reverse ++ stem.reverse))
      (fun c hc => hws c (List.mem_reverse.mp hc)) (fun c hc => Option.some.inj hc ▸ side_not_ws hsd)).2
    obtain ⟨h2, h3⟩ := span_append (p := isSep) (a := sep.reverse) (b := stem.reverse)
      (fun c hc => hall c (List.mem_reverse.mp hc)) (fun c hc => hlast c (List.head?_reverse ▸ hc))
    have hside : (side == 'L' || side == 'R') = true := by simpa using hsd
    have hany : stem.any (· == '\n') = false :=
      List.any_eq_false.mpr fun c hc h => hnl c hc (beq_iff_eq.mp h)
    simp [stereoMatch, h1, h2, h3, hside, hany, hsep]

theorem stereoMatch_build (stem sep : Name) (sd : Char) (hsep : sep ≠ [])
    (hall : ∀ c ∈ sep, isSep c = true) (hsd : sd = 'L' ∨ sd = 'R')
    (hlast : ∀ c, stem.getLast? = some c → isSep c = false) (hnl : ∀ c ∈ stem, c ≠ '\n') :
    stereoMatch (stem ++ sep ++ [sd]) = some (stem, sep, sd) :=
  stereoMatch_eq_some_iff.mpr
    ⟨⟨hsep, hall, hsd, hlast, hnl⟩, [], fun _ h => absurd h List.not_mem_nil, (List.append_nil _).symm⟩

/-- export names are stripped: nothing follows the side letter. -/
def NoTail (n : Name) : Prop := ∀ c, n.getLast? = some c → isWs c = false

theorem stereoMatch_exact {n stem sep : Name} {side : Char} (hn : NoTail n)
    (h : stereoMatch n = some (stem, sep, side)) : n = stem ++ sep ++ [side] := by
  obtain ⟨_, ws, hws, rfl⟩ := stereoMatch_eq_some_iff.mp h
  cases hw : ws.getLast? with
  | none => simp [List.getLast?_eq_none_iff.mp hw]
  | some c =>
    have := hn c (by rw [List.getLast?_append, hw]; rfl)
    rw [hws c (List.mem_of_getLast? hw)] at this
    cases this

def flipSide (c : Char) : Char := if c == 'L' then 'R' else 'L'

theorem flipSide_LR (c : Char) : flipSide c = 'L' ∨ flipSide c = 'R' := by
  unfold flipSide; split <;> simp

theorem flipSide_ne (c : Char) : flipSide c ≠ c := by
  by_cases h : c = 'L'
  · subst h; decide
  · simpa [flipSide, h] using Ne.symm h

theorem flipSide_flipSide {c : Char} (h : c = 'L' ∨ c = 'R') : flipSide (flipSide c) = c := by
  rcases h with rfl | rfl <;> rfl

theorem stereoMatch_alt {n stem sep : Name} {side : Char} (h : stereoMatch n = some (stem, sep, side)) :
    stereoMatch (stem ++ sep ++ [flipSide side]) = some (stem, sep, flipSide side) := by
  obtain ⟨⟨h1, h2, _, h4, h5⟩, _⟩ := stereoMatch_eq_some_iff.mp h
  exact stereoMatch_build stem sep _ h1 h2 (flipSide_LR side) h4 h5

theorem partner_of_noTail {n stem sep : Name} {side : Char} (hn : NoTail n)
    (h : stereoMatch n = some (stem, sep, side)) :
    stem ++ sep ++ [flipSide side] ≠ n ∧ stem ++ sep ++ [flipSide (flipSide side)] = n := by
  obtain ⟨⟨_, _, hside, _⟩, _⟩ := stereoMatch_eq_some_iff.mp h
  cases stereoMatch_exact hn h
  exact ⟨fun e => flipSide_ne side (List.cons.inj (List.append_cancel_left e)).1,
    by rw [flipSide_flipSide hside]⟩

/-- **The pairing loop, case by case.** One round of `combine_stereo_routine`: `skip` — the name is
marked (`if marked[name]: continue`); `mono` — it has no stereo shape, or no sibling carries the
partner's name; `pair` — the sample is written with `sample_dict[alternate_name]`, the `L` half first,
and both names are marked. -/
theorem combine_go_induct (names : List Name) (lookup : Name → Option Nat)
    (P : Nat → List Name → List Group → Prop)
    (skip : ∀ i n marked acc, names[i]? = some n → n ∈ marked → P i marked acc → P (i + 1) marked acc)
    (mono : ∀ i n marked acc, names[i]? = some n → n ∉ marked →
      (∀ st sp sd, stereoMatch n = some (st, sp, sd) → lookup (st ++ sp ++ [flipSide sd]) = none) →
      P i marked acc → P (i + 1) (n :: marked) (acc ++ [.mono i]))
    (pair : ∀ i n marked acc st sp sd j nm g, names[i]? = some n → n ∉ marked →
      stereoMatch n = some (st, sp, sd) → lookup (st ++ sp ++ [flipSide sd]) = some j →
      (sd = 'L' ∧ g = .pair i j nm ∨ sd = 'R' ∧ g = .pair j i nm) →
      P i marked acc → P (i + 1) (n :: (st ++ sp ++ [flipSide sd]) :: marked) (acc ++ [g])) :
    ∀ (rest : List Name) (i : Nat) (marked taken : List Name) (acc : List Group),
      rest = names.drop i → P i marked acc →
      ∃ marked', P (i + rest.length) marked' (combine.go lookup i rest marked taken acc) := by
  intro rest i marked taken acc
  have at_i : ∀ {i : Nat} {n : Name} {ns : List Name}, n :: ns = names.drop i →
      names[i]? = some n ∧ ns = names.drop (i + 1) ∧ i + (n :: ns).length = i + 1 + ns.length := by
    intro i n ns h
    exact ⟨by rw [← List.head?_drop, ← h]; rfl, by rw [← List.tail_drop, ← h]; rfl,
      Nat.add_right_comm i ns.length 1⟩  -- `(n :: ns).length` is `ns.length + 1` by `rfl`
  fun_induction combine.go lookup i rest marked taken acc with
  | case1 i marked taken acc => intro _ h; exact ⟨marked, h⟩
  | case2 i marked taken acc n ns hmk ih =>
    intro hrest h
    obtain ⟨hni, hns, hlen⟩ := at_i hrest
    exact hlen ▸ ih hns (skip i n marked acc hni (by simpa using hmk) h)
  | case3 i marked taken acc n ns hmk stem sep side hsm altSide alt j hlk nm g ih =>
    intro hrest h
    obtain ⟨hni, hns, hlen⟩ := at_i hrest
    obtain ⟨⟨_, _, hside, _⟩, _⟩ := stereoMatch_eq_some_iff.mp hsm
    refine hlen ▸ ih hns (pair i n marked acc stem sep side j nm g hni (by simpa using hmk) hsm hlk ?_ h)
    rcases hside with rfl | rfl
    · exact Or.inl ⟨rfl, rfl⟩
    · exact Or.inr ⟨rfl, rfl⟩
  | case4 i marked taken acc n ns hmk stem sep side hsm altSide alt hlk ih =>
    intro hrest h
    obtain ⟨hni, hns, hlen⟩ := at_i hrest
    refine hlen ▸ ih hns (mono i n marked acc hni (by simpa using hmk) ?_ h)
    intro st sp sd e
    cases hsm.symm.trans e
    exact hlk
  | case5 i marked taken acc n ns hmk hsm ih =>
    intro hrest h
    obtain ⟨hni, hns, hlen⟩ := at_i hrest
    exact hlen ▸ ih hns (mono i n marked acc hni (by simpa using hmk)
      (fun st sp sd e => by rw [hsm] at e; cases e) h)

/-- `sample_dict[name]`: the local `lookup` of `combine`, verbatim. -/
abbrev lastIndex (names : List Name) (a : Name) : Option Nat :=
  (List.range names.length).reverse.find? fun i => names[i]? == some a

theorem combine_eq_go (names : List Name) :
    combine names = combine.go (lastIndex names) 0 names [] names [] := rfl

theorem lastIndex_some {names : List Name} {a : Name} {j : Nat} (h : lastIndex names a = some j) :
    names[j]? = some a := by
  simpa using List.find?_some h

theorem lastIndex_ne_none {names : List Name} {a : Name} (ha : a ∈ names) : lastIndex names a ≠ none := by
  intro hnone
  obtain ⟨i, hi, rfl⟩ := List.mem_iff_getElem.mp ha
  simpa [hi] using List.find?_eq_none.mp hnone i (by simpa using hi)

theorem combine_induct (names : List Name) (P : Nat → List Name → List Group → Prop)
    (skip : ∀ i n marked acc, names[i]? = some n → n ∈ marked → P i marked acc → P (i + 1) marked acc)
    (mono : ∀ i n marked acc, names[i]? = some n → n ∉ marked →
      (∀ st sp sd, stereoMatch n = some (st, sp, sd) → (st ++ sp ++ [flipSide sd]) ∉ names) →
      P i marked acc → P (i + 1) (n :: marked) (acc ++ [.mono i]))
    (pair : ∀ i n marked acc st sp sd j nm g, names[i]? = some n → n ∉ marked →
      stereoMatch n = some (st, sp, sd) → names[j]? = some (st ++ sp ++ [flipSide sd]) →
      (sd = 'L' ∧ g = .pair i j nm ∨ sd = 'R' ∧ g = .pair j i nm) →
      P i marked acc → P (i + 1) (n :: (st ++ sp ++ [flipSide sd]) :: marked) (acc ++ [g]))
    (h0 : P 0 [] []) : ∃ marked', P names.length marked' (combine names) := by
  have := combine_go_induct names (lastIndex names) P skip
    (fun i n marked acc hni hnm hnone => mono i n marked acc hni hnm
      fun st sp sd h hin => lastIndex_ne_none hin (hnone st sp sd h))
    (fun i n marked acc st sp sd j nm g hni hnm hsm hlk => pair i n marked acc st sp sd j nm g hni hnm hsm
      (lastIndex_some hlk))
    names 0 [] names [] rfl h0
  simpa only [combine_eq_go, Nat.zero_add] using this

def Group.indices : Group → List Nat
  | Group.mono i => [i]
  | .pair l r _ => [l, r]

def covered (gs : List Group) : List Nat := gs.flatMap Group.indices

theorem idx_inj {names : List Name} (hnd : names.Nodup) {a b : Nat} {x : Name}
    (ha : names[a]? = some x) (hb : names[b]? = some x) : a = b :=
  (List.getElem?_inj (List.getElem?_eq_some_iff.mp ha).1 hnd).mp (ha.trans hb.symm)

structure Inv (names : List Name) (i : Nat) (marked : List Name) (acc : List Group) : Prop where
  nodup  : (covered acc).Nodup
  cov    : ∀ k, k ∈ covered acc ↔ ∃ m ∈ marked, names[k]? = some m
  done   : ∀ k, k < i → ∃ m ∈ marked, names[k]? = some m
  closed : ∀ m ∈ marked, ∀ st sp sd, stereoMatch m = some (st, sp, sd) →
             (st ++ sp ++ [flipSide sd]) ∈ names → (st ++ sp ++ [flipSide sd]) ∈ marked

theorem Inv.step {names : List Name} {i : Nat} {marked : List Name} {acc : List Group}
    (inv : Inv names i marked acc) {n : Name} (hni : names[i]? = some n) (ms : List Name) (g : Group)
    (hn : n ∈ ms) (hfresh : ∀ m ∈ ms, m ∉ marked) (hgnd : g.indices.Nodup)
    (hg : ∀ k, k ∈ g.indices ↔ ∃ m ∈ ms, names[k]? = some m)
    (hclosed : ∀ m ∈ ms, ∀ st sp sd, stereoMatch m = some (st, sp, sd) →
      (st ++ sp ++ [flipSide sd]) ∈ names → (st ++ sp ++ [flipSide sd]) ∈ ms ++ marked) :
    Inv names (i + 1) (ms ++ marked) (acc ++ [g]) := by
  have hcov : covered (acc ++ [g]) = covered acc ++ g.indices := by simp [covered]
  refine ⟨?_, ?_, ?_, ?_⟩
  · rw [hcov, List.nodup_append]
    refine ⟨inv.nodup, hgnd, ?_⟩
    rintro k ha _ hb rfl
    obtain ⟨m, hm, e⟩ := (inv.cov k).mp ha
    obtain ⟨m', hm', e'⟩ := (hg k).mp hb
    cases e.symm.trans e'
    exact hfresh m hm' hm
  · intro k
    simp only [hcov, List.mem_append, hg, inv.cov, or_and_right, exists_or]
    exact or_comm
  · intro k hk
    rcases Nat.lt_succ_iff_lt_or_eq.mp hk with h | rfl
    · obtain ⟨m, hm, e⟩ := inv.done k h
      exact ⟨m, List.mem_append_right _ hm, e⟩
    · exact ⟨n, List.mem_append_left _ hn, hni⟩
  · intro m hm st sp sd hmatch hin
    rcases List.mem_append.mp hm with hm | hm
    · exact hclosed m hm st sp sd hmatch hin
    · exact List.mem_append_right _ (inv.closed m hm st sp sd hmatch hin)

theorem go_partition (names : List Name) (lookup : Name → Option Nat)
    (hlk1 : ∀ a j, lookup a = some j → names[j]? = some a)
    (hlk2 : ∀ a, a ∈ names → lookup a ≠ none)
    (hnd : names.Nodup) (hnt : ∀ n ∈ names, NoTail n) :
    ∀ (rest : List Name) (i : Nat) (marked taken : List Name) (acc : List Group),
      rest = names.drop i → Inv names i marked acc →
      (covered (combine.go lookup i rest marked taken acc)).Nodup ∧
      ∀ k, k ∈ covered (combine.go lookup i rest marked taken acc) ↔ k < names.length := by
  intro rest i marked taken acc hrest inv
  suffices ∃ marked', Inv names (i + rest.length) marked' (combine.go lookup i rest marked taken acc) by
    obtain ⟨marked', inv'⟩ := this
    refine ⟨inv'.nodup, fun k => ⟨fun hk => ?_, fun hk => (inv'.cov k).mpr (inv'.done k ?_)⟩⟩
    · obtain ⟨m, _, hm⟩ := (inv'.cov k).mp hk
      exact (List.getElem?_eq_some_iff.mp hm).1
    · rw [hrest, List.length_drop]  -- `k < n ≤ i + (n - i)`
      exact Nat.lt_of_lt_of_le hk (Nat.sub_le_iff_le_add'.mp (Nat.le_refl _))
  have hidx : ∀ {k j : Nat} {m : Name}, names[j]? = some m → (k = j ↔ names[k]? = some m) :=
    fun hj => ⟨fun e => e ▸ hj, fun e => idx_inj hnd e hj⟩
  apply combine_go_induct names lookup (Inv names) ?skip ?mono ?pair rest i marked taken acc hrest inv
  case skip =>
    intro i n marked acc hni hm inv
    refine ⟨inv.nodup, inv.cov, fun k hk => ?_, inv.closed⟩
    rcases Nat.lt_succ_iff_lt_or_eq.mp hk with h | rfl
    · exact inv.done k h
    · exact ⟨n, hm, hni⟩
  case mono =>
    intro i n marked acc hni hnm hnone inv
    refine inv.step hni [n] (.mono i) List.mem_cons_self (fun m hm => List.mem_singleton.mp hm ▸ hnm)
      (by simp [Group.indices]) ?_ ?_
    · intro k
      simp only [Group.indices, List.mem_singleton, exists_eq_left]
      exact hidx hni
    · intro m hm st sp sd hmatch hin
      cases List.mem_singleton.mp hm
      exact absurd (hnone st sp sd hmatch) (hlk2 _ hin)
  case pair =>
    intro i n marked acc stem sep side j nm g hni hnm hsm hlk hg inv
    have halt := stereoMatch_alt hsm
    obtain ⟨hne, hback⟩ := partner_of_noTail (hnt n (List.mem_of_getElem? hni)) hsm
    have hj : names[j]? = some (stem ++ sep ++ [flipSide side]) := hlk1 _ j hlk
    have hij : i ≠ j := by
      rintro rfl
      exact hne (Option.some.inj (hj.symm.trans hni))
    have hperm : g.indices.Perm [i, j] := by
      rcases hg with ⟨_, rfl⟩ | ⟨_, rfl⟩
      · exact .refl _
      · exact .swap ..
    refine inv.step hni [n, stem ++ sep ++ [flipSide side]] g List.mem_cons_self ?_ ?_ ?_ ?_
    · -- had the partner been marked, so would the name, the loop being closed under partners
      intro m hm hmk
      simp only [List.mem_cons, List.not_mem_nil, or_false] at hm
      rcases hm with rfl | rfl
      · exact hnm hmk
      · exact hnm (hback ▸ inv.closed _ hmk _ _ _ halt (hback ▸ List.mem_of_getElem? hni))
    · exact hperm.nodup_iff.mpr (by simp [hij])
    · intro k
      simp only [hperm.mem_iff, List.mem_cons, List.not_mem_nil, or_false, exists_eq_or_imp, exists_eq_left]
      exact or_congr (hidx hni) (hidx hj)
    · intro m hm st sp sd hmatch _
      simp only [List.mem_cons, List.not_mem_nil, or_false] at hm
      rcases hm with rfl | rfl
      · cases hsm.symm.trans hmatch
        exact List.mem_append_left _ (List.mem_cons_of_mem _ List.mem_cons_self)
      · cases halt.symm.trans hmatch
        rw [hback]
        exact List.mem_append_left _ List.mem_cons_self

end Smpl.Names
