/-
Block reads over content with holes (C01, C02, C15).  A range is readable exactly when none of its
positions lies in a hole, and a block read returns a piece of the window all of whose positions are
such; a chain given by its pieces is the padded pieces in a row, its holes the gaps of the short ones.
-/
import Smpl.Model.ShortRead
import Smpl.Lemmas.Rows

namespace Smpl.ShortRead

theorem countOk_le (p : Nat → Bool) (n k : Nat) : countOk p n k ≤ n := by
  induction n generalizing k with
  | zero => simp [countOk]
  | succ n ih =>
    simp only [countOk]
    split
    · rw [Nat.add_comm]; exact Nat.succ_le_succ (ih (k + 1))
    · exact Nat.zero_le _

theorem countOk_all {p : Nat → Bool} {n k : Nat} (h : ∀ j, p j = true) : countOk p n k = n := by
  induction n generalizing k with
  | zero => simp [countOk]
  | succ n ih => simp [countOk, h, ih]; omega

theorem countOk_spec (p : Nat → Bool) (n k j : Nat) (hj : j < countOk p n k) : p (k + j) = true := by
  induction n generalizing k j with
  | zero => simp [countOk] at hj
  | succ n ih =>
    simp only [countOk] at hj
    split at hj
    · rename_i hp
      rw [Nat.add_comm 1] at hj
      cases j with
      | zero => simpa using hp
      | succ j => exact Nat.add_right_comm k 1 j ▸ ih (k + 1) j (Nat.lt_of_succ_lt_succ hj)
    · exact absurd hj (Nat.not_lt_zero j)

def Present (holes : List (Nat × Nat)) (i : Nat) : Prop := ∀ xy ∈ holes, ¬ (xy.1 ≤ i ∧ i < xy.2)

theorem avail_iff (h : Holey) (a b : Nat) :
    h.avail a b = true ↔ ∀ i, a ≤ i → i < b → Present h.holes i := by
  simp only [Holey.avail, List.all_eq_true, Bool.or_eq_true, decide_eq_true_eq, Present]
  constructor
  · intro H i ha hb xy hm ⟨h1, h2⟩
    refine absurd (H xy hm) ?_
    simp only [not_or, Nat.not_le]
    exact ⟨⟨⟨Nat.lt_of_le_of_lt h1 h2, Nat.lt_of_le_of_lt ha h2⟩, Nat.lt_of_le_of_lt h1 hb⟩,
      Nat.lt_of_le_of_lt ha hb⟩
  · -- otherwise the hole contains `max a xy.1`, a position of the range
    intro H xy hm
    refine Decidable.byContradiction fun hn => ?_
    simp only [not_or, Nat.not_le] at hn
    obtain ⟨⟨⟨hxy, hay⟩, hxb⟩, hab⟩ := hn
    exact H _ (Nat.le_max_left ..) (Nat.max_lt.mpr ⟨hab, hxb⟩) xy hm
      ⟨Nat.le_max_right .., Nat.max_lt.mpr ⟨hay, hxy⟩⟩

theorem avail_nil (bs : Bytes) (a b : Nat) : (Holey.mk bs []).avail a b = true := by
  simp [Holey.avail]

theorem avail_of_complete (h : Holey) (hc : h.complete = true) (a b : Nat) : h.avail a b = true := by
  simp only [Holey.complete, List.all_eq_true, decide_eq_true_eq] at hc
  exact (avail_iff h a b).mpr fun i _ _ xy hm ⟨h1, h2⟩ =>
    absurd (Nat.lt_of_le_of_lt h1 h2) (Nat.not_lt.mpr (hc xy hm))

theorem avail_mono (h : Holey) (a b a' b' : Nat) (ha : a ≤ a') (hb : b' ≤ b)
    (h1 : h.avail a b = true) : h.avail a' b' = true :=
  (avail_iff h a' b').mpr fun i h2 h3 =>
    (avail_iff h a b).mp h1 i (Nat.le_trans ha h2) (Nat.lt_of_lt_of_le h3 hb)

theorem drop_take_congr {b b' : Bytes} {a n : Nat} (h : ∀ i, a ≤ i → i < a + n → b[i]? = b'[i]?) :
    (b.drop a).take n = (b'.drop a).take n := by
  apply List.ext_getElem?
  intro i
  simp only [List.getElem?_take, List.getElem?_drop]
  split
  next hi => exact h _ (Nat.le_add_right a i) (Nat.add_lt_add_left hi a)
  · rfl

theorem READ_BLOCK_pos : 0 < READ_BLOCK := by decide

theorem blocks_cover {B W : Nat} (hB : 0 < B) : W ≤ (W + B - 1) / B * B := by
  have := Nat.lt_mul_div_succ (W + B - 1) hB
  rw [Nat.mul_succ, Nat.mul_comm] at this
  exact Nat.le_of_add_le_add_right (Nat.le_of_pred_lt this)

theorem countOk_block {p : Nat → Bool} {n m B : Nat} (d : Nat) (hB : 0 < B) (hm : countOk p n 0 = m)
    (hd : d < m * B) : p (d / B) = true ∧ d / B * B ≤ d ∧ d < (d / B + 1) * B := by
  have hp := countOk_spec p n 0 (d / B) (hm ▸ Nat.div_lt_of_lt_mul (Nat.mul_comm .. ▸ hd))
  rw [Nat.zero_add] at hp
  have := Nat.lt_mul_div_succ d hB
  rw [Nat.mul_comm] at this
  exact ⟨hp, Nat.div_mul_le_self d B, this⟩

/-- how much of the start of the window the readable blocks cover. -/
def coveredFwd (h : Holey) (off len : Nat) : Nat :=
  let W := min (off + len) h.bytes.length - off
  min (countOk (fun k => h.avail (off + k * READ_BLOCK) (min (off + (k + 1) * READ_BLOCK) (off + W)))
        ((W + READ_BLOCK - 1) / READ_BLOCK) 0 * READ_BLOCK) W

theorem readForward_eq (h : Holey) (off len : Nat) :
    readForward h off len = (h.bytes.drop off).take (coveredFwd h off len) := rfl

theorem coveredFwd_le (h : Holey) (off len : Nat) : coveredFwd h off len ≤ len := by
  simp only [coveredFwd, ← Nat.sub_min_sub_right, Nat.add_sub_cancel_left]
  exact Nat.le_trans (Nat.min_le_right ..) (Nat.min_le_left ..)

theorem coveredFwd_present (h : Holey) (off len i : Nat) (h1 : off ≤ i)
    (h2 : i < off + coveredFwd h off len) : Present h.holes i := by
  have hB := READ_BLOCK_pos
  simp only [coveredFwd] at h2
  generalize min (off + len) h.bytes.length - off = W at h2
  generalize READ_BLOCK = B at h2 hB  -- only `0 < B` is used
  generalize hm : countOk _ _ 0 = m at h2
  obtain ⟨d, rfl⟩ := Nat.exists_eq_add_of_le h1
  obtain ⟨hdm, hdW⟩ := Nat.lt_min.mp (Nat.lt_of_add_lt_add_left h2)
  obtain ⟨hav, hlo, hhi⟩ := countOk_block d hB hm hdm
  exact (avail_iff h _ _).mp hav _ (Nat.add_le_add_left hlo off)
    (Nat.lt_min.mpr ⟨Nat.add_lt_add_left hhi off, Nat.add_lt_add_left hdW off⟩)

theorem readForward_complete {h : Holey} (hc : h.complete = true) (off len : Nat) :
    readForward h off len = (h.bytes.drop off).take len := by
  rw [readForward_eq, coveredFwd]
  simp only [countOk_all fun j => avail_of_complete h hc _ _]
  rw [Nat.min_eq_right (blocks_cover READ_BLOCK_pos), List.take_eq_take_iff, List.length_drop,
    ← Nat.sub_min_sub_right, Nat.add_sub_cancel_left, Nat.min_assoc, Nat.min_self]

theorem readForward_prefix_of_agree (h h' : Holey) (hc : h'.complete = true)
    (hagree : ∀ i, Present h.holes i → h.bytes[i]? = h'.bytes[i]?) (off len : Nat) :
    readForward h off len <+: readForward h' off len := by
  rw [readForward_complete hc, readForward_eq,
    drop_take_congr fun i h1 h2 => hagree i (coveredFwd_present h off len i h1 h2)]
  exact List.take_prefix_take_left (coveredFwd_le h off len)

theorem reverseWords_length_le (x : Bytes) : (reverseWords x).length ≤ x.length := by
  fun_induction reverseWords x with
  | case1 a b rest ih =>
    simp only [List.length_append, List.length_cons, List.length_nil]
    exact Nat.add_le_add_right ih 2
  | case2 => exact Nat.zero_le _

theorem reverseWords_append (x y : Bytes) (hx : x.length % 2 = 0) :
    reverseWords (x ++ y) = reverseWords y ++ reverseWords x := by
  induction x using reverseWords.induct with
  | case1 a b rest ih =>
    have : rest.length % 2 = 0 := (Nat.add_mod_right _ 2).symm.trans hx
    simp only [List.cons_append, reverseWords, ih this, List.append_assoc]
  | case2 t ht =>
    rcases t with _ | ⟨p, _ | ⟨q, r⟩⟩
    · simp only [List.nil_append, reverseWords, List.append_nil]
    · simp at hx
    · exact absurd rfl (ht p q r)

/-- how much of the end of the window the readable blocks cover. -/
def coveredRev (h : Holey) (off len : Nat) : Nat :=
  min (countOk (fun k => h.avail (off + len - min ((k + 1) * READ_BLOCK) len) (off + len - k * READ_BLOCK))
        ((len + READ_BLOCK - 1) / READ_BLOCK) 0 * READ_BLOCK) len

theorem readReversed_eq (h : Holey) (off len : Nat) :
    readReversed h off len =
      reverseWords ((h.bytes.drop (off + len - coveredRev h off len)).take (coveredRev h off len)) := rfl

theorem coveredRev_le (h : Holey) (off len : Nat) : coveredRev h off len ≤ len :=
  Nat.min_le_right ..

/-- whole blocks or the whole window: an even number of bytes either way. -/
theorem coveredRev_even (h : Holey) (off len : Nat) (hl : len % 2 = 0) : coveredRev h off len % 2 = 0 := by
  unfold coveredRev
  generalize countOk _ _ 0 = m
  rcases Nat.le_total (m * READ_BLOCK) len with hle | hle
  · rw [Nat.min_eq_left hle, Nat.mul_mod, show READ_BLOCK % 2 = 0 by decide, Nat.mul_zero]
  · rw [Nat.min_eq_right hle]; exact hl

theorem coveredRev_present (h : Holey) (off len i : Nat) (h1 : off + len - coveredRev h off len ≤ i)
    (h2 : i < off + len) : Present h.holes i := by
  have hB := READ_BLOCK_pos
  simp only [coveredRev] at h1
  -- blocks are counted from the end of the window: `d` is the distance to its last byte
  obtain ⟨d, hd⟩ := Nat.exists_eq_add_of_lt h2
  rw [hd, Nat.add_assoc] at h1
  generalize READ_BLOCK = B at h1 hB
  generalize hm : countOk _ _ 0 = m at h1
  obtain ⟨hdm, hdl⟩ : d < m * B ∧ d < len :=
    Nat.lt_min.mp (Nat.le_of_add_le_add_left (Nat.sub_le_iff_le_add.mp h1))
  obtain ⟨hav, hlo, hhi⟩ := countOk_block d hB hm hdm
  exact (avail_iff h _ _).mp hav i
    (Nat.sub_le_iff_le_add.mpr (Nat.add_le_add_left (Nat.le_min.mpr ⟨hhi, hdl⟩) i))
    (Nat.lt_sub_iff_add_lt.mpr (Nat.add_lt_add_left (Nat.lt_succ_of_le hlo) i))

theorem readReversed_complete {h : Holey} (hc : h.complete = true) (off len : Nat) :
    readReversed h off len = reverseWords ((h.bytes.drop off).take len) := by
  rw [readReversed_eq, coveredRev]
  simp only [countOk_all fun j => avail_of_complete h hc _ _]
  rw [Nat.min_eq_right (blocks_cover READ_BLOCK_pos), Nat.add_sub_cancel]

/-- Where `h` has no hole it agrees with the complete `h'`: a reverse-mode read of `h`, of whole
2-byte samples inside the declared length, yields a prefix of what `h'` yields. -/
theorem readReversed_prefix_of_agree (h h' : Holey) (hc : h'.complete = true)
    (hagree : ∀ i, Present h.holes i → h.bytes[i]? = h'.bytes[i]?)
    (off len : Nat) (heven : len % 2 = 0) (hin : off + len ≤ h'.bytes.length) :
    readReversed h off len <+: readReversed h' off len := by
  rw [readReversed_complete hc, readReversed_eq]
  have hce := coveredRev_even h off len heven
  have hpres := coveredRev_present h off len
  -- the window is a head of `d` bytes, a whole number of samples, and the covered tail of `c`
  obtain ⟨d, hd⟩ := Nat.exists_eq_add_of_le' (coveredRev_le h off len)
  generalize coveredRev h off len = c at *
  subst hd
  rw [← Nat.add_assoc, Nat.add_sub_cancel] at hpres ⊢
  rw [drop_take_congr fun i h1 h2 => hagree i (hpres i h1 h2), List.take_add, List.drop_drop,
    reverseWords_append]
  · exact List.prefix_append _ _
  · have hd : off + d ≤ h'.bytes.length := Nat.le_trans (Nat.add_le_add_left (Nat.le_add_right d c) off) hin
    rw [List.length_take, List.length_drop, Nat.min_eq_left (Nat.le_sub_of_add_le' hd)]
    rwa [Nat.add_mod, hce, Nat.add_zero, Nat.mod_mod] at heven

/-- what `ofPieces` puts in the place of a sector: its piece, filled up to `L` bytes. -/
def padded (L : Nat) (p : Bytes) : Bytes := p.take L ++ List.replicate (L - (p.take L).length) 0

/-- the hole that the piece of sector `j` leaves when it is short. -/
def gap (L : Nat) (pj : Bytes × Nat) : List (Nat × Nat) :=
  if (pj.1.take L).length < L then [(pj.2 * L + (pj.1.take L).length, (pj.2 + 1) * L)] else []

theorem ofPieces_go_eq (L k : Nat) (ps : List Bytes) :
    ofPieces.go L k ps = ((ps.map (padded L)).flatten, (ps.zipIdx k).flatMap (gap L)) := by
  induction ps generalizing k with
  | nil => rfl
  | cons p ps ih =>
    simp only [ofPieces.go, ih, List.zipIdx_cons, List.flatMap_cons, List.map_cons, List.flatten_cons,
      gap, padded]
    split <;> rfl

theorem ofPieces_eq (L : Nat) (ps : List Bytes) :
    ofPieces L ps = ⟨(ps.map (padded L)).flatten, ps.zipIdx.flatMap (gap L)⟩ := by
  rw [ofPieces, ofPieces_go_eq]

theorem padded_length (L : Nat) (p : Bytes) : (padded L p).length = L := by
  rw [padded, List.length_append, List.length_replicate, Nat.add_sub_cancel' (List.length_take_le ..)]

theorem padded_full (L : Nat) (p : Bytes) (h : p.length = L) : padded L p = p := by
  rw [padded, List.take_of_length_le (Nat.le_of_eq h), h, Nat.sub_self]; exact List.append_nil p

theorem gap_full (L : Nat) (pj : Bytes × Nat) (h : pj.1.length = L) : gap L pj = [] := by
  rw [gap, if_neg]; rw [List.take_of_length_le (Nat.le_of_eq h), h]; omega

theorem ofPieces_length (L : Nat) (ps : List Bytes) : (ofPieces L ps).bytes.length = ps.length * L := by
  rw [ofPieces_eq, Rows.flatten_length (List.forall_mem_map.mpr fun p _ => padded_length L p),
    List.length_map]

theorem ofPieces_full {L : Nat} {ps : List Bytes} (hfull : ∀ p ∈ ps, p.length = L) :
    ofPieces L ps = ⟨ps.flatten, []⟩ := by
  rw [ofPieces_eq, List.map_congr_left fun p hp => padded_full L p (hfull p hp), List.map_id',
    List.flatMap_eq_nil_iff.mpr fun x hx => gap_full L x (hfull _ (List.fst_mem_of_mem_zipIdx hx))]

theorem ofPieces_map_full {α : Type} (L : Nat) {f : α → Bytes} (l : List α) (hfull : ∀ x ∈ l, (f x).length = L) :
    ofPieces L (l.map f) = ⟨l.flatMap f, []⟩ := by
  rw [ofPieces_full (List.forall_mem_map.mpr hfull), List.flatMap_def]

theorem clip_of_le {h : Holey} {size : Nat} (hs : h.bytes.length ≤ size) : h.clip size = h := by
  rw [Holey.clip, List.take_of_length_le hs]

theorem ofPieces_getElem? (L : Nat) (ps : List Bytes) {j r : Nat} (hj : j < ps.length) (hr : r < L)
    (hr' : r < ps[j].length) : (ofPieces L ps).bytes[j * L + r]? = some ps[j][r] := by
  rw [ofPieces_eq, Rows.flatten_getElem? (List.forall_mem_map.mpr fun p _ => padded_length L p) j r
      (by rwa [List.length_map]) hr,
    List.getElem_map, padded,
    List.getElem?_append_left (by rw [List.length_take]; exact Nat.lt_min.mpr ⟨hr, hr'⟩),
    List.getElem?_take, if_pos hr, List.getElem?_eq_getElem hr']

theorem present_inside {L : Nat} {ps : List Bytes} {j r : Nat} (hj : j < ps.length) (hr : r < L)
    (h : Present (ofPieces L ps).holes (j * L + r)) : r < ps[j].length := by
  apply Nat.lt_of_not_le
  intro hle
  -- otherwise the piece is short and the position lies in its gap
  have hq : (ps[j].take L).length ≤ r := Nat.le_trans (List.length_take_le' ..) hle
  refine h (j * L + (ps[j].take L).length, (j + 1) * L) ?_
    ⟨Nat.add_le_add_left hq _, by rw [Nat.succ_mul]; exact Nat.add_lt_add_left hr _⟩
  rw [ofPieces_eq]
  exact List.mem_flatMap.mpr ⟨(ps[j], j), List.mk_mem_zipIdx_iff_getElem?.mpr (List.getElem?_eq_getElem hj),
    by simp only [gap, Nat.lt_of_le_of_lt hq hr, if_true, List.mem_singleton]⟩

theorem ofPieces_agree {L : Nat} {ps' ps : List Bytes} (hlen : ps'.length = ps.length)
    (hpre : ∀ j (h1 : j < ps'.length) (h2 : j < ps.length), ps'[j] <+: ps[j])
    (i : Nat) (hpres : Present (ofPieces L ps').holes i) :
    (ofPieces L ps').bytes[i]? = (ofPieces L ps).bytes[i]? := by
  by_cases hi : i < ps'.length * L
  · -- `i` is position `r` of sector `j`, inside the shorter piece, which is a prefix of the longer
    have hL : 0 < L := Nat.pos_of_ne_zero fun h => by simp [h] at hi
    obtain ⟨j, r, hj, hr, rfl⟩ : ∃ j r, j < ps'.length ∧ r < L ∧ i = j * L + r :=
      ⟨i / L, i % L, Nat.div_lt_of_lt_mul (Nat.mul_comm .. ▸ hi), Nat.mod_lt _ hL,
        by rw [Nat.mul_comm]; exact (Nat.div_add_mod i L).symm⟩
    have hr' := present_inside hj hr hpres
    have hp := hpre j hj (hlen ▸ hj)
    rw [ofPieces_getElem? L ps' hj hr hr',
      ofPieces_getElem? L ps (hlen ▸ hj) hr (Nat.lt_of_lt_of_le hr' hp.length_le), hp.getElem hr']
  · have hi := Nat.le_of_not_lt hi
    rw [List.getElem?_eq_none (by rwa [ofPieces_length]),
      List.getElem?_eq_none (by rwa [ofPieces_length, ← hlen])]

theorem readReversed_pieces_prefix {L : Nat} {ps' ps : List Bytes}
    (hlen : ps'.length = ps.length)
    (hpre : ∀ j (h1 : j < ps'.length) (h2 : j < ps.length), ps'[j] <+: ps[j])
    (hfull : ∀ p ∈ ps, p.length = L) (off len : Nat) (heven : len % 2 = 0)
    (hin : off + len ≤ ps.length * L) :
    readReversed (ofPieces L ps') off len <+: readReversed (ofPieces L ps) off len := by
  apply readReversed_prefix_of_agree
  · rw [ofPieces_full hfull]; rfl
  · exact ofPieces_agree hlen hpre
  · exact heven
  · rw [ofPieces_length]; exact hin

end Smpl.ShortRead
