/-
What the proofs about the two allocation-table decoders share: the outer `for` as a `foldlM` with an
invariant, the sectors of a walk as a `Path`, what `add_to_sector_links` leaves, the visited flags.
-/
import Smpl.Model.Alloc

namespace Smpl.Alloc

theorem lt_of_getElem? {α : Type} {a : Array α} {i : Nat} {v : α} (h : a[i]? = some v) : i < a.size :=
  (Array.getElem?_eq_some_iff.mp h).1

theorem lt_of_lt_succ_of_ne {a i : Nat} (h : a < i + 1) (e : i ≠ a) : a < i :=
  Nat.lt_of_le_of_ne (Nat.le_of_lt_succ h) e.symm

theorem nodup_length_le {l : List Nat} {n : Nat} (hn : l.Nodup) (h : ∀ x ∈ l, x < n) : l.length ≤ n := by
  simpa using List.Nodup.length_le_of_subset hn (fun x hx => List.mem_range.mpr (h x hx))

theorem map_eq_ok {ε α β : Type} {f : α → β} {x : Except ε α} {b : β} (h : x.map f = .ok b) :
    ∃ a, x = .ok a ∧ f a = b := by
  cases x with
  | error e => cases h
  | ok a => exact ⟨a, rfl, Except.ok.inj h⟩

theorem foldlM_inv {ε σ α : Type} {f : σ → α → Except ε σ} {l : List α} (I : Nat → σ → Prop) {s s' : σ}
    (h0 : I 0 s) (hstep : ∀ k (h : k < l.length) s s', I k s → f s l[k] = .ok s' → I (k + 1) s')
    (he : l.foldlM f s = .ok s') : I l.length s' := by
  induction l generalizing I s with
  | nil => cases he; exact h0
  | cons a l ih =>
    rw [List.foldlM_cons] at he
    cases hs : f s a with
    | error e => rw [hs] at he; cases he
    | ok s1 =>
      rw [hs] at he
      exact ih (fun k => I (k + 1)) (hstep 0 (Nat.zero_lt_succ _) s s1 h0 hs)
        (fun k h => hstep (k + 1) (Nat.succ_lt_succ h)) he

/-- The sectors a walk visits, a chain of a table: `R` the step the table prescribes, `E` how it ends. -/
def Path {α : Type} (R : α → α → Prop) (E : α → Prop) : List α → Prop
  | [] => True
  | [a] => E a
  | a :: b :: r => R a b ∧ Path R E (b :: r)

abbrev Any {α : Type} : α → Prop := fun _ => True

namespace Path
variable {α : Type} {R R' : α → α → Prop} {E E' : α → Prop}

theorem imp_mem {l : List α} (hR : ∀ a ∈ l, ∀ b, R a b → R' a b) (hE : ∀ a, l.getLast? = some a → E a → E' a)
    (h : Path R E l) : Path R' E' l := by
  induction l using Path.induct with
  | case1 => trivial
  | case2 a => exact hE a rfl h
  | case3 a b r ih =>
    exact ⟨hR a (List.mem_cons_self ..) b h.1,
      ih (fun x hx => hR x (List.mem_cons_of_mem _ hx)) (fun x hx => hE x (by rwa [List.getLast?_cons_cons])) h.2⟩

theorem append {l : List α} {a : α} {t : List α} (h1 : Path R Any (l ++ [a])) (h : Path R E (a :: t)) :
    Path R E (l ++ a :: t) := by
  induction l using Path.induct with
  | case1 => exact h
  | case2 _ => exact ⟨h1.1, h⟩
  | case3 _ y l ih => exact ⟨h1.1, ih h1.2⟩

theorem suffix {l : List α} {a : α} {t : List α} (h : Path R E (l ++ a :: t)) : Path R E (a :: t) := by
  induction l using Path.induct with
  | case1 => exact h
  | case2 _ => exact h.2
  | case3 _ y l ih => exact ih h.2

/-- The walks keep their list newest sector first (`lst`) and hand it to `addLinks` turned round. -/
theorem reverse {l : List α} (h : Path (fun a b => R b a) Any l) : Path R Any l.reverse := by
  induction l using Path.induct with
  | case1 => trivial
  | case2 _ => trivial
  | case3 a b r ih =>
    have hba : Path R Any [b, a] := ⟨h.1, trivial⟩
    simpa using append (by simpa using ih h.2) hba

theorem step {l : List α} (h : Path R E l) {k : Nat} {a b : α} (ha : l[k]? = some a) (hb : l[k + 1]? = some b) :
    R a b := by
  induction l using Path.induct generalizing k with
  | case1 => cases ha
  | case2 _ => cases hb
  | case3 _ _ _ ih =>
    cases k with
    | zero => cases ha; cases hb; exact h.1
    | succ k => exact ih h.2 ha hb

theorem last {l : List α} (h : Path R E l) {z : α} (hz : l.getLast? = some z) : E z := by
  induction l using Path.induct with
  | case1 => cases hz
  | case2 a => cases hz; exact h
  | case3 _ b r ih => exact ih h.2 (by rwa [List.getLast?_cons_cons] at hz)

theorem triv : ∀ {l : List α}, Path (fun _ _ => True) Any l
  | [] => trivial
  | [_] => trivial
  | _ :: _ :: _ => ⟨trivial, triv⟩

theorem tail {a : α} : ∀ {l : List α}, Path R E (a :: l) → Path R E l
  | [], _ => trivial
  | _ :: _, h => h.2

theorem end_or_step {l : List α} (h : Path R E l) {x : α} (hx : x ∈ l) : E x ∨ ∃ b ∈ l, R x b := by
  induction l using Path.induct with
  | case1 => cases hx
  | case2 a => cases List.mem_singleton.mp hx; exact .inl h
  | case3 a b r ih =>
    rcases List.mem_cons.mp hx with rfl | hx
    · exact .inr ⟨b, List.mem_cons_of_mem _ List.mem_cons_self, h.1⟩
    · rcases ih h.2 hx with h' | ⟨b', hb', h'⟩
      · exact .inl h'
      · exact .inr ⟨b', List.mem_cons_of_mem _ hb', h'⟩

theorem closed {S : α → Prop} (hS : ∀ a b, R a b → S a → S b) {l : List α} {a : α} {t : List α}
    (h : Path R E (l ++ a :: t)) (ha : S a) : ∀ x ∈ t, S x := by
  induction t generalizing l a with
  | nil => exact fun _ hx => absurd hx List.not_mem_nil
  | cons b t ih =>
    have hb : S b := hS a b (suffix h).1 ha
    exact List.forall_mem_cons.mpr ⟨hb, ih (l := l ++ [a]) (by rwa [List.append_assoc]) hb⟩

section functional
variable (hf : ∀ a b b', R a b → R a b' → b = b')
include hf

theorem det (hx : ∀ a b, R a b → ¬ E a) (hx' : ∀ a b, R a b → ¬ E' a) {a : α} {t r : List α}
    (h1 : Path R E (a :: t)) (h2 : Path R E' (a :: r)) : t = r := by
  induction t generalizing a r with
  | nil =>
    cases r with
    | nil => rfl
    | cons _ _ => exact absurd h1 (hx _ _ h2.1)
  | cons b t ih =>
    cases r with
    | nil => exact absurd h2 (hx' _ _ h1.1)
    | cons b' r =>
      cases hf _ _ _ h1.1 h2.1
      rw [ih h1.2 h2.2]

theorem nodup (hx : ∀ a b, R a b → ¬ E a) {l : List α} (h : Path R E l) : l.Nodup := by
  induction l with
  | nil => exact List.nodup_nil
  | cons a t ih =>
    refine List.nodup_cons.mpr ⟨fun hm => ?_, ih h.tail⟩
    obtain ⟨l1, l2, e⟩ := List.append_of_mem hm
    have h2 : Path R E (a :: l2) := suffix (l := a :: l1) (by rw [e] at h; exact h)
    have := congrArg List.length (det hf hx hx h h2)
    rw [e] at this
    simp at this
    omega

end functional
end Path

/-- What `add_to_sector_links` leaves in the table. A path may come by a sector twice and the later visit
wins, hence `∃ b, R x b` and not the successor on the path. -/
theorem addLinks_spec {R : Nat → Nat → Prop} {E : Nat → Prop} {p : List Nat} {links ls : List Link}
    (hp : Path R E p) (he : addLinks p links = .ok ls) :
    ls.length = links.length ∧ ∀ x,
      (x ∉ p ∧ ls[x]? = links[x]?) ∨
      (p.getLast? = some x ∧ E x ∧ ls[x]? = some ⟨0, true⟩) ∨
      (x ∈ p ∧ p.getLast? ≠ some x ∧ ∃ b, R x b ∧ ls[x]? = some ⟨b, false⟩) := by
  induction p, links using addLinks.induct with
  | case1 links =>
    cases he
    exact ⟨rfl, fun x => .inl ⟨List.not_mem_nil, rfl⟩⟩
  | case2 a links ha =>
    rw [addLinks, if_pos ha] at he
    cases he
    refine ⟨List.length_set, fun x => ?_⟩
    by_cases e : x = a
    · subst e; exact .inr (.inl ⟨rfl, hp, List.getElem?_set_self ha⟩)
    · exact .inl ⟨fun hx => e (List.mem_singleton.mp hx), List.getElem?_set_ne (Ne.symm e)⟩
  | case3 a links ha => rw [addLinks, if_neg ha] at he; cases he
  | case4 a b r links ha ih =>
    rw [addLinks, if_pos ha] at he
    obtain ⟨hlen, h⟩ := ih hp.2 he
    rw [List.length_set] at hlen
    refine ⟨hlen, fun x => ?_⟩
    rw [List.getLast?_cons_cons]
    rcases h x with ⟨hm, e⟩ | h | ⟨hm, h⟩
    · by_cases hxa : x = a
      · subst hxa
        exact .inr (.inr ⟨List.mem_cons_self .., fun hl => hm (List.mem_of_getLast? hl), b, hp.1,
          e.trans (List.getElem?_set_self ha)⟩)
      · exact .inl ⟨fun hx => (List.mem_cons.mp hx).elim hxa hm, e.trans (List.getElem?_set_ne (Ne.symm hxa))⟩
    · exact .inr (.inl h)
    · exact .inr (.inr ⟨List.mem_cons_of_mem _ hm, h⟩)
  | case5 a b r links ha => rw [addLinks, if_neg ha] at he; cases he

theorem addLinks_length {p : List Nat} {links ls : List Link} (he : addLinks p links = .ok ls) :
    ls.length = links.length :=
  (addLinks_spec Path.triv he).1

theorem addLinks_of_not_mem {p : List Nat} {links ls : List Link} (he : addLinks p links = .ok ls)
    {x : Nat} (hx : x ∉ p) : ls[x]? = links[x]? := by
  rcases (addLinks_spec Path.triv he).2 x with ⟨_, e⟩ | ⟨hl, _⟩ | ⟨hm, _⟩
  · exact e
  · exact absurd (List.mem_of_getLast? hl) hx
  · exact absurd hm hx

theorem addLinks_getLast {p : List Nat} {links ls : List Link} (he : addLinks p links = .ok ls)
    {z : Nat} (hz : p.getLast? = some z) : ls[z]? = some ⟨0, true⟩ := by
  rcases (addLinks_spec Path.triv he).2 z with ⟨hm, _⟩ | ⟨_, _, e⟩ | ⟨_, hl, _⟩
  · exact absurd (List.mem_of_getLast? hz) hm
  · exact e
  · exact absurd hz hl

/-- The visited flags (`dirty_flags`) after a walk along the sectors `w`. -/
def mark (w : List Nat) (d : Array Bool) : Array Bool := w.foldl (fun d x => d.setIfInBounds x true) d

@[simp] theorem mark_nil (d : Array Bool) : mark [] d = d := rfl
theorem mark_cons (a : Nat) (w : List Nat) (d : Array Bool) :
    mark (a :: w) d = mark w (d.setIfInBounds a true) := rfl

@[simp] theorem size_mark : ∀ (w : List Nat) (d : Array Bool), (mark w d).size = d.size
  | [], _ => rfl
  | a :: w, d => by rw [mark_cons, size_mark w]; simp

theorem mark_true {w : List Nat} {d : Array Bool} {x : Nat} :
    (mark w d)[x]? = some true ↔ d[x]? = some true ∨ (x ∈ w ∧ x < d.size) := by
  induction w generalizing d with
  | nil => simp only [mark_nil, List.not_mem_nil, false_and, or_false]
  | cons a w ih =>
    rw [mark_cons, ih, Array.getElem?_setIfInBounds]
    by_cases e : a = x
    · subst e
      by_cases h : a < d.size <;> simp [h]
    · simp [e, Ne.symm e]

theorem mark_of_not_mem {w : List Nat} {d : Array Bool} {x : Nat} (hx : x ∉ w) : (mark w d)[x]? = d[x]? := by
  induction w generalizing d with
  | nil => rfl
  | cons a w ih =>
    rw [mark_cons, ih (fun h => hx (List.mem_cons_of_mem _ h)),
      Array.getElem?_setIfInBounds_ne (fun e => hx (by simp [e]))]

end Smpl.Alloc
