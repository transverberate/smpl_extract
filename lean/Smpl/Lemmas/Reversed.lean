/-
`StreamReversed`: reversing a content by rows of `w` bytes, and what `_translate_addr` and `_read`
do with a request of whole rows (for C08's theorems about `mkRev`).
-/
import Smpl.Lemmas.StreamSpec
import Smpl.Lemmas.Rows

namespace Smpl.Stream

theorem chunks_eq_map (w : Nat) : ∀ (n : Nat) (l : List Byte),
    chunks w n l = (List.range n).map (Rows.row w l)
  | 0, _ => rfl
  | n + 1, l => by rw [chunks, chunks_eq_map w n, Rows.map_row_succ]

theorem chunks_append (w a b : Nat) (l : List Byte) :
    chunks w (a + b) l = chunks w a l ++ chunks w b (l.drop (a * w)) := by
  simp only [chunks_eq_map, List.range_add, List.map_append, List.map_map]
  exact congrArg _ (List.map_congr_left fun i _ => (Rows.row_drop w a l i).symm)

theorem chunks_of_take (w m : Nat) (l : List Byte) : chunks w m (l.take (m * w)) = chunks w m l := by
  rw [chunks_eq_map, chunks_eq_map]
  exact List.map_congr_left fun i hi => Rows.row_take (Rows.mul_add_le_of_lt (List.mem_range.mp hi) w)

theorem chunks_flatten (w m : Nat) (l : List Byte) (h : m * w ≤ l.length) :
    (chunks w m l).flatten = l.take (m * w) := by
  rw [chunks_eq_map, ← List.flatMap_def, Rows.flatMap_row]

/-- content of the reversed view: the first `R` rows of `w` bytes, last row first. -/
def revContent (w R : Nat) (c : List Byte) : List Byte := (chunks w R c).reverse.flatten

theorem revContent_length (w R : Nat) (c : List Byte) (h : R * w ≤ c.length) :
    (revContent w R c).length = R * w := by
  rw [revContent, chunks_eq_map, ← List.map_reverse, ← List.flatMap_def, Rows.flatMap_length,
    List.length_reverse, List.length_range]
  intro i hi
  have hi := List.mem_range.mp (List.mem_reverse.mp hi)
  exact Rows.row_length (Nat.le_trans (Rows.mul_add_le_of_lt hi w) h)

theorem revContent_append (w a b : Nat) (c : List Byte) :
    revContent w (a + b) c = revContent w b (c.drop (a * w)) ++ revContent w a c := by
  simp only [revContent, chunks_append, List.reverse_append, List.flatten_append]

/-- Rows `i … i+m−1` of the reversed content are the rows `R−i−m … R−i−1` of the original in reverse
order: what `StreamReversed._read` makes of the forward read at the translated address `(R−i−m)·w`. -/
theorem revContent_block (w R : Nat) (c : List Byte) (h : R * w ≤ c.length) (i m : Nat) (him : i + m ≤ R) :
    ((revContent w R c).drop (i * w)).take (m * w)
      = (chunks w m ((c.drop ((R - i - m) * w)).take (m * w))).reverse.flatten := by
  -- R rows = j rows, then m rows, then i rows; reversed, the last i come first
  obtain ⟨j, rfl⟩ : ∃ j, R = j + m + i :=
    ⟨R - (i + m), by rw [Nat.add_assoc, Nat.add_comm m i, Nat.sub_add_cancel him]⟩
  rw [Nat.add_mul] at h
  have hi : i * w ≤ (c.drop ((j + m) * w)).length := by
    rw [List.length_drop]; exact Nat.le_sub_of_add_le' h
  rw [Nat.add_mul] at h
  have hm : m * w ≤ (c.drop (j * w)).length := by
    rw [List.length_drop]; exact Nat.le_sub_of_add_le' (Nat.le_trans (Nat.le_add_right ..) h)
  rw [Nat.add_sub_cancel, Nat.add_sub_cancel, chunks_of_take, revContent_append, revContent_append,
    List.drop_left' (revContent_length w i _ hi), List.take_left' (revContent_length w m _ hm), revContent]

/-- `_translate_addr` accepts a request of whole rows whose mirror image `a` starts on a row. -/
theorem revTr_ok {w E ts p a : Nat} (h : a + (p + ts) = E) (hts : ts % w = 0) (ha : a % w = 0) :
    revTr (E : Int) w ts p = .ok (a : Int) := by
  subst h
  simp only [revTr, Int.natCast_add, Int.add_sub_cancel, ← Int.natCast_emod, hts, ha, Int.natCast_zero, ne_eq,
    not_true_eq_false, if_false]

theorem revRaw_spec {sub : FileLike} {csub : List Byte} {k : Nat} {fpk : List Nat}
    {ok : Nat → Cell → Prop} (hsub : IsSub sub csub k fpk ok) {w : Nat} (hw : 0 < w) {a m : Nat}
    (ha : a + m * w ≤ csub.length) (pos : Int) {s : Store} (hinv : GInv ok s) (hpos : (s k).pos = a) :
    ∃ s', revRaw sub w pos ((m * w : Nat) : Int) s
        = (.ok (chunks w m ((csub.drop a).take (m * w))).reverse.flatten, s') ∧
      GInv ok s' ∧ Frame fpk s s' := by
  obtain ⟨s', hr, _, hinv', hfr⟩ := hsub.read s ((m * w : Nat) : Int) hinv (Int.natCast_nonneg _)
  refine ⟨s', ?_, hinv', hfr⟩
  have hlen : ((csub.drop a).take (m * w)).length = m * w := by
    rw [List.length_take, List.length_drop, Nat.min_eq_left (Nat.le_sub_of_add_le' ha)]
  rw [revRaw, hr, hpos, slice_nat]
  simp only [Int.toNat_natCast, Nat.mul_div_cancel _ hw, hlen, ne_eq, not_true_eq_false,
    Nat.ne_of_gt hw, or_self, if_false]

end Smpl.Stream
