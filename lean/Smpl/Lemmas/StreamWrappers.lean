import Smpl.Lemmas.StreamSpec

namespace Smpl.Stream

/-- `StreamOffset(sub, eof, off)` is a read-only file over `sub[off : off+eof]`. -/
theorem mkOffset_isFile {sub : FileLike} {csub : List Byte} {k : Nat} {fpk : List Nat}
    {ok : Nat → Cell → Prop} (hsub : IsSub sub csub k fpk ok) (i : Nat) (hi : i ∉ fpk)
    (eof off : Int) (heof : 0 < eof) (hoff : 0 ≤ off) (hwin : off + eof ≤ csub.length)
    (hok : ∀ cell, ok i cell ↔ (0 ≤ cell.pos ∧ cell.pos ≤ eof)) :
    IsFile (mkOffset sub i eof off) (slice csub off eof) i (i :: fpk) ok := by
  have heof0 := Int.le_of_lt heof
  refine window_isFile hsub i eof hok
    (slice_length_of_le csub hoff heof0 hwin) (off + ·) (fun _ => Int.add_nonneg hoff) ?_
  intro p n s2 hp hn hpn hs2 hpos
  -- the substream stands at `off + p`; its read is the window's slice because `p + n ≤ eof`
  obtain ⟨s3, r1, _, r3, r4⟩ := hsub.read s2 n hs2 hn
  have hpe : p ≤ eof := Int.le_trans (Int.le_add_of_nonneg_right hn) hpn
  rw [hpos (Int.le_trans (Int.add_le_add_left hpe off) hwin)] at r1
  rw [slice_slice csub off eof p n hoff heof0 hp hn hpe,
    Int.min_eq_left (Int.le_sub_left_of_add_le hpn)]
  exact ⟨s3, r1, r3, r4⟩

/-- `StreamWrapper(sub, eof)` is a read-only file over `sub[0 : eof]`: it is `StreamOffset` at 0. -/
theorem mkWrap_isFile {sub : FileLike} {csub : List Byte} {k : Nat} {fpk : List Nat}
    {ok : Nat → Cell → Prop} (hsub : IsSub sub csub k fpk ok) (i : Nat) (hi : i ∉ fpk)
    (eof : Int) (heof : 0 < eof) (hwin : eof ≤ csub.length)
    (hok : ∀ cell, ok i cell ↔ (0 ≤ cell.pos ∧ cell.pos ≤ eof)) :
    IsFile (mkWrap sub i eof) (slice csub 0 eof) i (i :: fpk) ok := by
  have e : mkWrap sub i eof = mkOffset sub i eof 0 := by
    simp only [mkWrap, mkOffset, Int.zero_add]; rfl
  exact e ▸ mkOffset_isFile hsub i hi eof 0 heof (Int.le_refl 0) (by rwa [Int.zero_add]) hok

end Smpl.Stream
