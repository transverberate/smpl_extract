/-
The Roland model has its own copies of `leVal`, `words16` and (in `Img.ofBytes`) of `rd`; they equal the
AKAI model's, so the lemmas of `Lemmas/Rd` apply. (`Container.leVal`, used in C09, and `Spec.Riff.le`,
used in C04, are further copies, not covered here.)
-/
import Smpl.Lemmas.Rd
import Smpl.Model.Roland

namespace Smpl.Roland

theorem leVal_eq : ∀ bs : Bytes, leVal bs = Smpl.Akai.leVal bs
  | [] => rfl
  | b :: bs => by simp only [leVal, Smpl.Akai.leVal, leVal_eq bs]

theorem words16_eq : ∀ bs : Bytes, words16 bs = Smpl.Akai.words16 bs
  | [] => rfl
  | [_] => rfl
  | a :: b :: rest => by simp only [words16, Smpl.Akai.words16, words16_eq rest]

theorem ofBytes_rd (b : Bytes) (off n : Nat) : (Img.ofBytes b).rd off n = Smpl.Akai.rd b off n := rfl

theorem clusterData_ofBytes (b : List Nat) (c : Nat) :
    clusterData (Img.ofBytes b) c = (b.drop (DATA_FAT_OFF + c * CLUSTER)).take CLUSTER := by
  unfold clusterData Img.ofBytes
  -- only the names matter below; the literals would go through every arithmetic step
  generalize DATA_FAT_OFF = D
  generalize CLUSTER = C
  by_cases h : c * C ≥ b.length - D
  · rw [if_pos h, List.drop_eq_nil_of_le (Nat.sub_le_iff_le_add'.mp h), List.take_nil]
  · have hlt : D + c * C < b.length := Nat.lt_sub_iff_add_lt'.mp (Nat.not_le.mp h)
    have h2 : D + c * C + min C (b.length - D - c * C) ≤ b.length := by
      rw [Nat.sub_sub]
      exact Nat.add_le_of_le_sub' (Nat.le_of_lt hlt) (Nat.min_le_right _ _)
    simp only [h, if_false, h2, if_true]
    rw [Option.getD_some, List.take_eq_take_iff, List.length_drop, Nat.sub_sub, Nat.min_assoc, Nat.min_self]

end Smpl.Roland
