/-
`str.strip` for an arbitrary class `p` of blanks (`trim`): `Names.strip` and `Cue.strip` are `trim` of
their own `isWs`, so stripping is treated once, here.
-/
import Smpl.Model.Names
import Smpl.Model.Cue

namespace Smpl

def trim {α : Type} (p : α → Bool) (s : List α) : List α := ((s.dropWhile p).reverse.dropWhile p).reverse

theorem Names.strip_eq_trim : Names.strip = trim Names.isWs := rfl
theorem Cue.strip_eq_trim : Cue.strip = trim Cue.isWs := rfl

variable {α : Type} {p : α → Bool}

theorem mem_takeWhile {l : List α} {c : α} (h : c ∈ l.takeWhile p) : p c = true :=
  List.all_eq_true.mp List.all_takeWhile c h

theorem dropWhile_of_head {l : List α} (h : ∀ c, l.head? = some c → p c = false) : l.dropWhile p = l := by
  cases l with
  | nil => rfl
  | cons c cs => simp [h c rfl]

theorem span_append {a b : List α} (ha : ∀ c ∈ a, p c = true) (hb : ∀ c, b.head? = some c → p c = false) :
    (a ++ b).takeWhile p = a ∧ (a ++ b).dropWhile p = b := by
  rw [List.takeWhile_append_of_pos ha, List.dropWhile_append_of_pos ha, dropWhile_of_head hb]
  cases b with
  | nil => simp
  | cons c cs => simp [hb c rfl]

theorem trim_eq_self {l : List α} (hh : ∀ c, l.head? = some c → p c = false)
    (hl : ∀ c, l.getLast? = some c → p c = false) : trim p l = l := by
  rw [trim, dropWhile_of_head hh, dropWhile_of_head fun c e => hl c (List.head?_reverse ▸ e),
    List.reverse_reverse]

theorem trim_around {a l b : List α} (ha : ∀ c ∈ a, p c = true) (hb : ∀ c ∈ b, p c = true) :
    trim p (a ++ l ++ b) = trim p l := by
  have hb' : ∀ c ∈ b.reverse, p c = true := fun c hc => hb c (List.mem_reverse.mp hc)
  rw [trim, List.append_assoc, List.dropWhile_append_of_pos ha, List.dropWhile_append]
  split
  · -- `l` is all blank, and so is what follows it
    rename_i h
    have : b.dropWhile p = [] := by simpa using List.dropWhile_append_of_pos (l₂ := []) hb
    rw [trim, List.isEmpty_iff.mp h, this]
  · rw [trim, List.reverse_append, List.dropWhile_append_of_pos hb']

theorem trim_sublist (s : List α) : (trim p s).Sublist s := by
  have h : ((s.dropWhile p).reverse.dropWhile p).Sublist s.reverse :=
    (List.dropWhile_sublist p).trans (List.reverse_sublist.mpr (List.dropWhile_sublist p))
  simpa [trim] using List.reverse_sublist.mpr h

end Smpl
