/-
`Smpl.Akai.parsePartition` characterised in both directions, so that no other proof unfolds the parser.
-/
import Smpl.Model.Akai

namespace Smpl.Akai
open Smpl.Alloc

theorem parsePartition_of_reads {file : Bytes} {pos size : Nat} {b198 satRaw : Bytes} {vols : List VolEntry}
    {links : List Link} (letter : Nat)
    (h0 : uN file pos 2 = some size) (h2 : rd file (pos + 2) 2 = some [0, 0]) (h4 : rd file (pos + 4) 194 = some MAGIC)
    (h198 : rd file (pos + 198) 2 = some b198) (h200 : rd file (pos + 200) 2 = some [0x2F, 0x00])
    (hv : parseVolEntries file (pos + HEADER_BYTES) VOL_ENTRIES = some vols)
    (hs : rd file (pos + HEADER_BYTES + VOL_ENTRIES * VOL_ENTRY_BYTES) (2 * SAT_ENTRIES) = some satRaw)
    (hd : akaiDecode (words16 satRaw) = .ok links) (hsz : size ≠ 0) :
    parsePartition file pos letter
      = .ok (some (⟨letter, (file.drop pos).take (size * SECTOR), vols, links⟩, pos + size * SECTOR)) := by
  -- the reads first, by `rw`: while they stand, the kernel evaluates them to check `simp`'s steps through the `match`
  rw [parsePartition, h0, h2, h4, h198, h200, hv, hs]
  simp only [hd, hsz, if_false, ne_eq, not_true_eq_false, or_self]

theorem parsePartition_inv {file : Bytes} {pos letter : Nat} {p : Part} {next : Nat}
    (h : parsePartition file pos letter = .ok (some (p, next))) :
    ∃ size vols satRaw, uN file pos 2 = some size ∧ size ≠ 0 ∧
      parseVolEntries file (pos + HEADER_BYTES) VOL_ENTRIES = some vols ∧
      rd file (pos + HEADER_BYTES + VOL_ENTRIES * VOL_ENTRY_BYTES) (2 * SAT_ENTRIES) = some satRaw ∧
      akaiDecode (words16 satRaw) = .ok p.links ∧
      p = ⟨letter, (file.drop pos).take (size * SECTOR), vols, p.links⟩ ∧ next = pos + size * SECTOR := by
  -- of the parser's seven ways out only one returns a partition
  revert h
  fun_cases parsePartition file pos letter
  case case6 =>
    intro h
    cases h
    -- `with_reducible`: otherwise each `‹_›` unfolds the readers against every hypothesis
    with_reducible exact ⟨_, _, _, ‹uN file pos 2 = some _›, ‹_ ≠ 0›, ‹parseVolEntries _ _ _ = some _›,
      ‹rd file _ (2 * SAT_ENTRIES) = some _›, ‹akaiDecode _ = .ok _›, rfl, rfl⟩
  all_goals exact nofun

end Smpl.Akai
