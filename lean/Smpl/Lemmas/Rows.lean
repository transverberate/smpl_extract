/-
Lists in rows of one length `w`: a concatenation of such rows (the sectors of a chain), and a flat
list cut into rows (the samples and frames of a buffer, `np.reshape(arr, [rows, w])`).
`Transcode.groups` and `Stream.chunks` are both `(List.range n).map (row w l)`.
-/
namespace Smpl.Rows

variable {α : Type} {w : Nat} {L : List (List α)}

theorem flatten_length (hL : ∀ c ∈ L, c.length = w) : L.flatten.length = L.length * w := by
  rw [List.length_flatten, List.map_congr_left hL, List.map_const', List.sum_replicate_nat]

theorem flatMap_length {β : Type} {l : List β} {f : β → List α} (h : ∀ x ∈ l, (f x).length = w) :
    (l.flatMap f).length = l.length * w := by
  rw [List.flatMap_def, flatten_length (List.forall_mem_map.mpr h), List.length_map]

theorem flatten_drop (hL : ∀ c ∈ L, c.length = w) (i : Nat) :
    L.flatten.drop (i * w) = (L.drop i).flatten := by
  induction i generalizing L with
  | zero => simp
  | succ i ih =>
    cases L with
    | nil => simp
    | cons c cs =>
      rw [Nat.succ_mul, Nat.add_comm, List.flatten_cons, ← List.drop_drop,
        List.drop_left' (hL c (by simp)), ih fun x hx => hL x (by simp [hx]), List.drop_succ_cons]

theorem flatten_seg (hL : ∀ c ∈ L, c.length = w) (idx off n : Nat) (hidx : idx < L.length)
    (hon : off + n ≤ w) :
    (L.flatten.drop (idx * w + off)).take n = ((L[idx]).drop off).take n := by
  have hon : off + n ≤ L[idx].length := (hL _ (List.getElem_mem hidx)).symm ▸ hon
  rw [← List.drop_drop, flatten_drop hL, List.drop_eq_getElem_cons hidx, List.flatten_cons,
    List.drop_append_of_le_length (Nat.le_trans (Nat.le_add_right ..) hon),
    List.take_append_of_le_length (by rw [List.length_drop]; exact Nat.le_sub_of_add_le' hon)]

theorem flatten_getElem? (hL : ∀ c ∈ L, c.length = w) (idx off : Nat) (hidx : idx < L.length)
    (hoff : off < w) : L.flatten[idx * w + off]? = L[idx][off]? := by
  rw [← List.getElem?_drop, flatten_drop hL, List.drop_eq_getElem_cons hidx, List.flatten_cons,
    List.getElem?_append_left (by rw [hL _ (List.getElem_mem hidx)]; exact hoff)]

variable {l : List α} {i : Nat}

def row (w : Nat) (l : List α) (i : Nat) : List α := (l.drop (i * w)).take w

theorem mul_add_le_of_lt {m : Nat} (h : i < m) (w : Nat) : i * w + w ≤ m * w := by
  rw [← Nat.succ_mul]
  exact Nat.mul_le_mul_right w h

theorem mul_add_lt {m c n : Nat} (hi : i < m) (hc : c < n) : i * n + c < m * n :=
  Nat.lt_of_lt_of_le (Nat.add_lt_add_left hc _) (mul_add_le_of_lt hi n)

theorem row_take {S : Nat} (h : i * w + w ≤ S) : row w (l.take S) i = row w l i := by
  rw [row, row, List.drop_take, List.take_take, Nat.min_eq_left (Nat.le_sub_of_add_le' h)]

theorem row_drop (w k : Nat) (l : List α) (i : Nat) : row w (l.drop (k * w)) i = row w l (k + i) := by
  rw [row, row, List.drop_drop, Nat.add_mul]

theorem row_length (h : i * w + w ≤ l.length) : (row w l i).length = w := by
  rw [row, List.length_take, List.length_drop, Nat.min_eq_left (Nat.le_sub_of_add_le' h)]

theorem row_row {n c : Nat} (hc : c < n) : row w (row (n * w) l i) c = row w l (i * n + c) := by
  show row w ((l.drop (i * (n * w))).take (n * w)) c = _
  rw [row_take (mul_add_le_of_lt hc w), ← Nat.mul_assoc, row_drop]

/-- the recursion of `groups` and `chunks`. -/
theorem map_row_succ (w n : Nat) (l : List α) :
    (List.range (n + 1)).map (row w l) = l.take w :: (List.range n).map (row w (l.drop w)) := by
  simp [List.range_succ_eq_map, row, Nat.add_mul, Nat.add_comm]

theorem flatMap_row (w : Nat) (l : List α) : ∀ k : Nat,
    (List.range k).flatMap (row w l) = l.take (k * w)
  | 0 => by simp
  | k + 1 => by
    rw [List.range_succ, List.flatMap_append, flatMap_row w l k, Nat.succ_mul, List.take_add]
    simp [row]

end Smpl.Rows
