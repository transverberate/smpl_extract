/-
C02 from the raw image bytes: the chain is read off the raw FAT area.
-/
import Smpl.Props.C02
import Smpl.Props.C07RC

namespace Smpl.Props.C02
open Smpl Smpl.Roland Smpl.Alloc Smpl.Props.C07

def rawFat (b : Bytes) : List Nat := words16 ((b.drop FAT_OFF).take (2 * FAT_N))

theorem parseFat_links (b : Bytes) (fat : Fat) (h : parseFat (Img.ofBytes b) = .ok fat) :
    rolandDecode (rawFat b) = .ok fat.links ∧ (rawFat b).length = FAT_N := by
  -- of the parser's five ways out only the last returns a table
  revert h
  fun_cases parseFat (Img.ofBytes b)
  case case5 raw hraw _ _ _ _ _ _ _ links hdec =>
    intro h
    cases h
    rw [ofBytes_rd] at hraw
    have hlen := Smpl.Akai.rd_length hraw
    obtain ⟨_, rfl⟩ := Smpl.Akai.rd_eq_some hraw
    exact ⟨hdec, (congrArg List.length (words16_eq _)).trans (Smpl.Akai.words16_length hlen)⟩
  all_goals exact nofun

/-- **C02 (a sample's clusters, from the raw image).** If the FAT area parses and the raw FAT holds a
chain `c` (each word names the next cluster, the last is an end mark) whose head is allocatable
(`2 ≤ head < FAT_N - 9`, where the decoder's outer loop starts its walks), the file that starts there
with leading-cluster offset `top` is exactly `c` after its first `top` clusters — other FAT words
may point into the chain. -/
theorem C02_clusters_from_image (b : Bytes) (fat : Fat) (h : parseFat (Img.ofBytes b) = .ok fat)
    (c : List Nat) (hc : RawChain (rawFat b).toArray c) (hc0 : 2 ≤ c.headD 0)
    (hc0hi : c.headD 0 < FAT_N - 9)
    (top : Nat) :
    fileClusters fat (c.headD 0) top = .ok (c.drop top) := by
  obtain ⟨hdec, hlen⟩ := parseFat_links b fat h
  have hwf := C07_roland_complete (rawFat b) fat.links hdec c hc hc0 (by rw [hlen]; exact hc0hi)
  apply C02_file_clusters
  rw [← hlen]
  exact hwf.2

end Smpl.Props.C02
