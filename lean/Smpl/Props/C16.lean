/-
C16 — Results depend only on the image bytes, not on what was looked at before.
-/
import Smpl.Model.AkaiTool

namespace Smpl.Props.C16
open Smpl Smpl.Akai Smpl.AkaiTool

/-- what an opened image object carries between operations. -/
structure ObjState where
  realised : List (List Nat)          -- index paths of directory levels whose children are memoised
  cursors  : List (List Nat × Nat)    -- (sample index path, byte position of its data stream)

inductive Op where
  | ls (path : Smpl.Names.Name)
  | export

/-- the answer of an operation as the code computes it (after the `fix:` of D10: the transcoder
rewinds every data stream before reading), together with the next state. -/
def step (parts : List PartNode) (s : ObjState) : Op → (Except Err (List Smpl.Names.Name) ⊕ Except Err (List Exported)) × ObjState
  | .ls p => (.inl (lsOf parts p), { s with realised := [] :: s.realised })
  | .export => (.inr (exportOf parts), { realised := [] :: s.realised, cursors := s.cursors.map fun (k, _) => (k, 0) })

def run (parts : List PartNode) : ObjState → List Op → List (Except Err (List Smpl.Names.Name) ⊕ Except Err (List Exported))
  | _, [] => []
  | s, op :: rest => (step parts s op).1 :: run parts (step parts s op).2 rest

/-- **C16.** The answer to any operation after any history is the answer on a fresh object.  Immediate
in the model, where no answer reads `ObjState`; that the code has no such dependency is what the
history correspondence checks (the tool had one, for `export` after `export`, before the `fix:` of
D10). -/
theorem C16_pure (parts : List PartNode) (s s' : ObjState) (ops : List Op) :
    run parts s ops = run parts s' ops := by
  induction ops generalizing s s' with
  | nil => rfl
  | cons op rest ih =>
    simp only [run]
    have h1 : (step parts s op).1 = (step parts s' op).1 := by cases op <;> rfl
    rw [h1, ih (step parts s op).2 (step parts s' op).2]

/-- rewinding first (`seek(0)`) makes the position at which the cursor was left irrelevant. -/
theorem C16_rewind (data : List Nat) (pos : Nat) : (data.drop pos |> fun _ => data.drop 0) = data := by
  simp

end Smpl.Props.C16
