import Smpl.Model.Akai

/-! Partition names (D23): `A: .. Z:, AA:, AB:, ...`. Before the colon there is at least one character,
each an upper-case letter - so no partition name is blanked by the listing's clean-up and none
changes under the upper-casing of the AKAI path lookup - and the first 26 names are the single letters. -/

namespace Smpl.Props.C10P
open Smpl.Akai

theorem char_upper : ∀ r < 26, 65 ≤ (Char.ofNat (65 + r)).toNat ∧ (Char.ofNat (65 + r)).toNat ≤ 90 := by
  decide +kernel

theorem C10_partition_letters_upper (k : Nat) :
    ∀ c ∈ partLetters k, 65 ≤ c.toNat ∧ c.toNat ≤ 90 := by
  fun_induction partLetters k with
  | case1 k h => exact List.forall_mem_singleton.mpr (char_upper k h)
  | case2 k h ih =>
    rw [List.forall_mem_append]
    exact ⟨ih, List.forall_mem_singleton.mpr (char_upper (k % 26) (Nat.mod_lt _ (by decide)))⟩

theorem C10_partition_letters_first (k : Nat) (h : k < 26) : partName k = [Char.ofNat (65 + k), ':'] := by
  unfold partName partLetters
  simp [h]

theorem C10_partition_letters_nonempty (k : Nat) : partLetters k ≠ [] := by
  fun_induction partLetters k <;> simp

example : partName 0 = "A:".toList ∧ partName 25 = "Z:".toList ∧ partName 26 = "AA:".toList
    ∧ partName 32 = "AG:".toList ∧ partName 701 = "ZZ:".toList ∧ partName 702 = "AAA:".toList := by
  decide +kernel

end Smpl.Props.C10P
