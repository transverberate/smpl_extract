/-
C06 — the characters of the names the de-duplication assigns: what the candidate names share and
`_add_count_to_name` preserves, every assigned name has.
-/
import Smpl.Props.C06
import Smpl.Lemmas.Stereo
import Smpl.Lemmas.Decimal

namespace Smpl.Props.C06
open Smpl Smpl.Names

theorem natChars_digits (n : Nat) : ∀ c ∈ natChars n, c.isDigit = true := by
  intro c hc
  rw [natChars_eq] at hc
  exact Nat.isDigit_of_mem_toDigits (by decide) (by decide) hc

section generic
variable (P : Name → Prop) (hadd : ∀ n k, P n → P (addCount n k))
include hadd

theorem dedupe_P (hnil : P []) (cands res : List Name) (h : dedupe cands = .ok res)
    (hc : ∀ n ∈ cands, P n) : ∀ n ∈ res, P n := by
  -- `dedupe_reserved` for "every reserved name has `P`": the keys are candidates, and a counted
  -- name is made from a name given out before
  obtain ⟨_, given, hP, hperm, _⟩ := dedupe_reserved (fun _ L => ∀ x ∈ L, P x)
    (by
      intro _ given toCome name k hname _ hP x hx
      rcases List.mem_cons.mp (List.perm_middle.mem_iff.mp hx) with rfl | hx
      · exact hadd name k (hP name (List.mem_append_left _ hname))
      · exact hP x hx)
    h (fun keys _ hk x hx => hc x (hk x hx))
  exact fun n hn => hP n (hperm.mem_iff.mp hn)

end generic

/-- the characters the property allows in a path component. -/
def pathKeep (c : Char) : Bool := exportKeep c || c == '(' || c == ')'

theorem addCount_pathKeep (name : Name) (k : Nat) (h : ∀ c ∈ name, pathKeep c = true) :
    ∀ c ∈ addCount name k, pathKeep c = true := by
  have hcnt : (natChars k).all pathKeep = true := List.all_eq_true.mpr fun c hc => by
    have := natChars_digit k c hc
    simp [pathKeep, exportKeep, isWord, this.1, this.2]
  have hlit : pathKeep ' ' = true ∧ pathKeep '(' = true ∧ pathKeep ')' = true := by decide +kernel
  -- as `List.all`, which distributes over the pieces the new name is put together from
  rw [← List.all_eq_true] at h ⊢
  unfold addCount
  split
  · -- the stem and the side letter are the name's own
    rename_i stem sep side hsm
    obtain ⟨_, ws, _, rfl⟩ := stereoMatch_eq_some_iff.mp hsm
    simp only [List.all_append, List.all_cons, Bool.and_eq_true] at h
    obtain ⟨⟨⟨hstem, _⟩, hside, _⟩, _⟩ := h
    simp [List.all_append, hcnt, hlit, hstem, hside]
  · simp [List.all_append, hcnt, hlit, h]

/-- **C06 (character set of every assigned name).** Whatever the stored names of the siblings, the
names assigned to them — the export names, de-duplicated with `(n)` counters — consist only of word
characters, blank, `-`, `.`, `#`, `(` and `)`. -/
theorem C06_assigned_charset (stored : List (Name × Bool)) (res : List Name)
    (h : dedupe (stored.map fun (n, f) => makeExportName n f) = .ok res) :
    ∀ n ∈ res, ∀ c ∈ n, pathKeep c = true := by
  apply dedupe_P (fun n => ∀ c ∈ n, pathKeep c = true) (fun n k hn => addCount_pathKeep n k hn)
    (by intro c hc; cases hc) _ res h
  intro n hn
  simp only [List.mem_map] at hn
  obtain ⟨⟨nm, f⟩, _, rfl⟩ := hn
  intro c hc
  unfold pathKeep
  rw [C06_charset nm f c hc]; rfl

/-- non-vacuity: three siblings stored under one name. -/
example : (match dedupe ["a b".toList, "a b".toList, "a b".toList] with
    | .ok r => r == ["a b".toList, "a b (2)".toList, "a b (3)".toList]
    | .error _ => false) = true := by decide +kernel

end Smpl.Props.C06
