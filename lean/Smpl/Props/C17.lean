/-
C17 — Cue sheets are read the same regardless of case, spacing and unknown lines.
-/
import Smpl.Model.Cue
import Smpl.Lemmas.Trim

namespace Smpl.Props.C17
open Smpl Smpl.Cue

/-- the parser is a function of the classified lines only (by construction of the model; the model's
`classify` is tied to the four `re` objects by the correspondence). -/
theorem C17_machine (lines : List (List Char)) : parse lines = parseKinds (lines.map classify) := rfl

theorem strip_ws {ws l ws' : List Char} (h : ∀ c ∈ ws, isWs c = true) (h' : ∀ c ∈ ws', isWs c = true) :
    strip (ws ++ l ++ ws') = strip l := by
  rw [strip_eq_trim, trim_around h h']

/-- **C17 (blanks).** Leading and trailing blanks (any of TAB LF VT FF CR FS GS RS US SPACE) do not
change what a line is. -/
theorem C17_blanks (ws l ws' : List Char) (h : ∀ c ∈ ws, isWs c = true) (h' : ∀ c ∈ ws', isWs c = true) :
    classify (ws ++ l ++ ws') = classify l := by
  unfold classify
  rw [strip_ws h h']

theorem C17_blank_line (ws : List Char) (h : ∀ c ∈ ws, isWs c = true) : classify ws = .blank := by
  have := C17_blanks ws [] [] h (by simp)
  simp only [List.append_nil] at this
  rw [this]; rfl

/-- **C17 (case).** Keyword recognition ignores letter case: two spellings with the same lower-casing
are recognised alike, whatever follows. -/
theorem C17_case (k p p' rest : List Char) (hlen : p.length = k.length)
    (hlow : p.map lowerC = p'.map lowerC) : kw k (p ++ rest) = kw k (p' ++ rest) := by
  induction k generalizing p p' with
  | nil =>
    have : p = [] := List.length_eq_zero_iff.mp hlen
    subst this
    have : p' = [] := by simpa using hlow.symm
    subst this; rfl
  | cons kc ks ih =>
    cases p with
    | nil => cases hlen
    | cons c cs =>
      cases p' with
      | nil => simp at hlow
      | cons c' cs' =>
        simp only [List.map_cons, List.cons.injEq] at hlow
        simp only [List.cons_append, kw, hlow.1]
        rw [ih cs cs' (Nat.succ.inj hlen) hlow.2]

def isFileKind : Kind → Bool
  | .file _ _ => true
  | _ => false

/-- **C17 (lines before FILE).** Whatever precedes the first FILE line — REM, PERFORMER, TITLE,
CATALOG, stray TRACK/INDEX lines, blanks — is ignored. -/
theorem C17_before_file (pre ks : List Kind) (h : ∀ k ∈ pre, isFileKind k = false) :
    parseKinds (pre ++ ks) = parseKinds ks := by
  induction pre with
  | nil => rfl
  | cons k pre ih =>
    have hk := h k (List.mem_cons_self ..)
    cases k with
    | file _ _ => cases hk
    | _ => exact ih fun x hx => h x (List.mem_cons_of_mem _ hx)

/-- **C17 (no FILE).** Text without a FILE line is not a cue sheet. -/
theorem C17_no_file (ks : List Kind) (h : ∀ k ∈ ks, isFileKind k = false) :
    parseKinds ks = .error .badCue := by
  rw [← List.append_nil ks, C17_before_file ks [] h]; rfl

def notOther : Kind → Bool
  | .other _ => false
  | .blank => false
  | _ => true

/-- unknown and blank lines inside a track body only ever reach the track's `unparsed` list. -/
theorem trackBody_filter (t t' : Track) (hm : t.meaning = t'.meaning) (ks : List Kind) :
    (trackBody t ks).1.meaning = (trackBody t' (ks.filter notOther)).1.meaning ∧
    (trackBody t ks).2.filter notOther = (trackBody t' (ks.filter notOther)).2 := by
  induction ks generalizing t t' with
  | nil => simp [trackBody, hm]
  | cons k ks ih =>
    simp only [Track.meaning, Prod.mk.injEq] at hm
    cases k with
    | track n m => simp [trackBody, List.filter_cons, notOther, Track.meaning, hm]
    | _ =>
      -- a line the filter drops changes `unparsed` only; a FILE line inside a track is kept, and is
      -- `unparsed` text on both sides
      exact ih _ _ (by simp [Track.meaning, hm])

/-- what `trackBody` leaves behind. -/
def startsWithTrack : List Kind → Prop
  | [] => True
  | .track _ _ :: _ => True
  | _ => False

theorem trackBody_rest_starts (t : Track) (ks : List Kind) : startsWithTrack (trackBody t ks).2 := by
  induction ks generalizing t with
  | nil => simp [trackBody, startsWithTrack]
  | cons k ks ih =>
    cases k with
    | track n m => simp [trackBody, startsWithTrack]
    | _ => simpa [trackBody] using ih _

theorem fileTracks_track (fuel n : Nat) (m : List Char) (rest : List Kind) :
    fileTracks (fuel + 1) (.track n m :: rest)
      = (fileTracks fuel (trackBody ⟨n, m, none, [], []⟩ rest).2).map
          ((trackBody ⟨n, m, none, [], []⟩ rest).1 :: ·) := by
  simp only [fileTracks]
  cases fileTracks fuel (trackBody ⟨n, m, none, [], []⟩ rest).2 <;> rfl

theorem map_cons_meaning (t : Track) (r : Except Err (List Track)) :
    (r.map (t :: ·)).map (·.map Track.meaning) = (r.map (·.map Track.meaning)).map (t.meaning :: ·) := by
  cases r <;> rfl

/-- **C17 (unknown and blank lines inside tracks).** After the first TRACK line, removing every
unrecognised line (FLAGS, PREGAP, ISRC, REM …) and every blank line leaves the tracks' numbers,
modes, titles and index times unchanged. -/
theorem C17_in_track (fuel fuel' : Nat) (ks : List Kind) (hs : startsWithTrack ks)
    (hf : ks.length < fuel) (hf' : (ks.filter notOther).length < fuel') :
    (fileTracks fuel ks).map (·.map Track.meaning)
      = (fileTracks fuel' (ks.filter notOther)).map (·.map Track.meaning) := by
  induction fuel generalizing fuel' ks with
  | zero => exact absurd hf (Nat.not_lt_zero _)
  | succ fuel ih =>
    cases fuel' with
    | zero => exact absurd hf' (Nat.not_lt_zero _)
    | succ fuel' =>
      cases ks with
      | nil => rfl
      | cons k ks =>
        cases k with
        | track n m =>
          have e : (Kind.track n m :: ks).filter notOther = Kind.track n m :: ks.filter notOther := rfl
          rw [e] at hf' ⊢
          simp only [List.length_cons] at hf hf'
          rw [fileTracks_track, fileTracks_track, map_cons_meaning, map_cons_meaning]
          generalize (⟨n, m, none, [], []⟩ : Track) = t
          obtain ⟨h1, h2⟩ := trackBody_filter t t rfl ks
          rw [ih fuel' (trackBody t ks).2 (trackBody_rest_starts _ _)
            (Nat.lt_of_le_of_lt (trackBody_length t ks) (Nat.lt_of_succ_lt_succ hf))
            (h2 ▸ Nat.lt_of_le_of_lt (trackBody_length t _) (Nat.lt_of_succ_lt_succ hf')), h2, h1]
        | _ => simp [startsWithTrack] at hs

example : classify "  track 01 audio\n".toList = .track 1 "audio".toList := by decide +kernel
example : classify "FILE \"a\"b.bin\" BINARY".toList = .file "a\"b.bin".toList "FILE \"a\"b.bin\" BINARY".toList := by decide +kernel
example : classify "REM TRACK 01 AUDIO".toList = .other "REM TRACK 01 AUDIO".toList := by decide +kernel
example : classify "INDEX 01 00:02:33".toList = .index 1 0 2 33 := by decide +kernel

end Smpl.Props.C17
