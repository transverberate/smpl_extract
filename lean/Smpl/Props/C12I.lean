/-
C12 — one source stream with any number of interleaved channels, in either byte order, through the
pipeline or the passthrough.
-/
import Smpl.Props.C12L

namespace Smpl.Props.C12
open Smpl.Transcode

/-- the channels of a block of `m` frames of `n` samples, each sample passed through `g`,
interleave back to the samples in their original order. -/
theorem encodeBlock_channels (w n m : Nat) (hn : 0 < n) (hm : 0 < m) (g : Sample → Sample)
    (ss : List Sample) (hss : ss.length = m * n) :
    encodeBlock w ((List.range n).map fun c => (everyNth n c ss).map g)
      = ss.flatMap (fun s => (g s).map some) := by
  have hch : ∀ c ∈ List.range n,
      (everyNth n c ss).map g = (List.range m).map (fun f => g (ss[f * n + c]?.getD [])) := fun c hc => by
    rw [everyNth_spec n c (List.mem_range.mp hc) m ss hss, List.map_map]
    rfl
  have hne : ((List.range n).map fun c => (everyNth n c ss).map g) ≠ [] :=
    List.ne_nil_of_length_pos (by rw [List.length_map, List.length_range]; exact hn)
  rw [encodeBlock_rect w m _ hne, ← flatMap_range_getD (fun s => (g s).map some) [] ss, hss,
    ← flatMap_double n _ m]
  · apply flatMap_congr'
    intro f hf
    rw [List.flatMap_map]
    apply flatMap_congr'
    intro c hc
    rw [hch c hc]
    simp only [slot, List.getElem?_map, List.getElem?_range (List.mem_range.mp hf), Option.map_some]
  · intro ch h
    obtain ⟨c, hc, rfl⟩ := List.mem_map.mp h
    rw [hch c hc]; simp

/-- **one block** holding at least one whole frame is de-interleaved, mapped sample by sample and
re-interleaved to exactly its whole frames: the channels keep their places. -/
theorem block_single (e : Enc) (hw : 0 < e.width) (hn : 0 < e.nch) (g : Sample → Sample)
    (buf : List Byte) (hb : e.frame ≤ buf.length) :
    encodeBlock e.width ((decodeOne e buf).map (·.map g))
      = (mapSamples g e.width (wholeFrames e.frame buf)).map some := by
  have := block_exact (α := Unit) (fun _ => e) (fun _ => buf) (fun _ => g) hw (List.cons_ne_nil () [])
    (fun _ _ => ⟨rfl, hn⟩) (fun _ _ => rfl)
  simp only [blockChans_singleton, List.flatMap_cons, List.flatMap_nil, List.append_nil] at this
  rw [this, mapSamples_wholeFrames hw]

theorem expected_single (s : Src) (hw : 0 < s.enc.width) (rem : List Byte) :
    expected s.enc.width [(s, rem)] (rem.length / s.enc.frame)
      = (mapSamples (gOf s.enc.big) s.enc.width (wholeFrames s.enc.frame rem)).map some := by
  simp only [mapSamples_wholeFrames hw, expected_eq, List.flatMap_cons, List.flatMap_nil, List.append_nil]

theorem pipeLoop_single (host : Bool) (dest : Enc) (e : Enc) (d : List Byte) (hw : 0 < e.width) (hn : 0 < e.nch)
    (hdw : dest.width = e.width) (hdb : dest.big = false) (nf : Nat) (hnf : 0 < nf) :
    ∀ (fuel : Nat) (rem : List Byte), rem.length < fuel →
      (pipeLoop host dest [⟨e, d⟩] [nf * e.frame] fuel [rem]).flatten
        = (mapSamples (gOf e.big) e.width (wholeFrames e.frame rem)).map some := by
  intro fuel rem hlt
  have := run_whole host hdb (hdw ▸ hw) hnf (st := [(⟨e, d⟩, rem)]) (List.cons_ne_nil _ _)
    (fun x hx => by cases List.mem_singleton.mp hx; exact ⟨hdw.symm, hn⟩)
    (fun x hx => by cases List.mem_singleton.mp hx; rfl)
    (Nat.lt_of_le_of_lt (Nat.div_le_self ..) hlt)
  rw [hdw, expected_single ⟨e, d⟩ hw] at this
  exact this

theorem wholeFrames_take_drop (frame nf : Nat) (hf : 0 < frame) (rem : List Byte) :
    wholeFrames frame rem
      = wholeFrames frame (rem.take (nf * frame)) ++ wholeFrames frame (rem.drop (nf * frame)) := by
  rcases Nat.le_total (nf * frame) rem.length with hfull | hshort
  · -- the block is `nf` whole frames, and `rem` holds `nf` more whole frames than the rest
    have hdiv : rem.length / frame = nf + (rem.length - nf * frame) / frame := by
      rw [Nat.add_comm, ← Nat.add_mul_div_right _ _ hf, Nat.sub_add_cancel hfull]
    rw [wholeFrames_exact frame nf hf (rem.take _) (List.length_take.trans (Nat.min_eq_left hfull))]
    unfold wholeFrames
    rw [List.length_drop, hdiv, Nat.add_mul, List.take_add]
  · rw [List.take_of_length_le hshort, List.drop_of_length_le hshort,
      wholeFrames_short frame [] hf, List.append_nil]

theorem passLoop_single (frame nf : Nat) (hf : 0 < frame) (hnf : 0 < nf) :
    ∀ (fuel : Nat) (rem : List Byte), rem.length < fuel →
      (passLoop frame (nf * frame) fuel rem).flatten = (wholeFrames frame rem).map some := by
  intro fuel
  induction fuel with
  | zero => intro rem h; exact absurd h (Nat.not_lt_zero _)
  | succ fuel ih =>
    intro rem hlt
    unfold passLoop
    simp only [List.isEmpty_iff, wholeFrames_eq_nil_iff, Nat.div_eq_zero_iff_lt hf, List.length_take]
    rcases Nat.lt_or_ge rem.length frame with hs | hl
    · rw [if_pos (Nat.lt_of_le_of_lt (Nat.min_le_right ..) hs), wholeFrames_short frame rem hs]
      rfl
    · have hdrop : (rem.drop (nf * frame)).length < fuel := by
        rw [List.length_drop]
        exact Nat.lt_of_lt_of_le (Nat.sub_lt (Nat.lt_of_lt_of_le hf hl) (Nat.mul_pos hnf hf))
          (Nat.le_of_lt_succ hlt)
      rw [if_neg (Nat.not_lt.mpr (Nat.le_min.mpr ⟨Nat.le_mul_of_pos_left frame hnf, hl⟩)),
        List.flatten_cons, ih _ hdrop, ← List.map_append, ← wholeFrames_take_drop frame nf hf]

/-- **C12 (one stream, any number of interleaved channels, either byte order).** Through the passthrough
when its encoding equals the destination's, through the pipeline otherwise, the stream is written as
exactly its whole frames in order, every sample in its place and byte-reversed exactly when the source
is big-endian; only a trailing partial frame is dropped — for every host and every buffer size `B`. -/
theorem C12_single (host : Bool) (B : Nat) (e : Enc) (sgD : Bool) (hw : 0 < e.width) (hn : 0 < e.nch)
    (data : List Byte) :
    ∃ blocks, transcode host B ⟨false, e.width, e.nch, sgD⟩ [⟨e, data⟩] = .ok blocks ∧
      blocks.flatten = (mapSamples (gOf e.big) e.width (wholeFrames e.frame data)).map some := by
  have hch : (([⟨e, data⟩] : List Src).map (·.enc.chans)).foldl (· + ·) 0
      = (⟨false, e.width, e.nch, sgD⟩ : Enc).nch :=
    (Nat.zero_add _).trans (Nat.max_eq_right hn)
  have hnf := numFrames_pos B [⟨e, data⟩]
  by_cases heq : encEq e ⟨false, e.width, e.nch, sgD⟩ = true
  · refine ⟨_, transcode_pass hch heq, ?_⟩
    have hbig : e.big = false := by
      unfold encEq at heq
      simp only [Bool.and_eq_true, beq_iff_eq] at heq
      exact heq.1.1.1.1
    rw [passLoop_single e.frame _ (frame_pos e hw hn) hnf _ data (Nat.lt_succ_self _), hbig,
      mapSamples_id e.width (data.length / e.frame * e.nch) hw _ (by
        rw [wholeFrames_length]; unfold Enc.frame; rw [Nat.mul_assoc])]
  · refine ⟨_, transcode_pipe (List.cons_ne_nil _ _) hch (fun s h => by cases h; simpa using heq), ?_⟩
    exact pipeLoop_single host ⟨false, e.width, e.nch, sgD⟩ e data hw hn rfl rfl _ hnf _ data (by simp)

/-- non-vacuity: big-endian interleaved stereo, three frames and one stray byte, block of one frame. -/
example : (transcode true 4 ⟨false, 2, 2, true⟩ [⟨⟨true, 2, 2, true⟩, [1, 2, 3, 4, 5, 6, 7, 8, 9, 10, 11, 12, 13]⟩]).toOption.map List.flatten
    = some ([2, 1, 4, 3, 6, 5, 8, 7, 10, 9, 12, 11].map some) := by decide +kernel

end Smpl.Props.C12
