/-
C05 — which half goes to which channel.
-/
import Smpl.Props.C05

namespace Smpl.Props.C05
open Smpl Smpl.Names

/-- `l` is named `stem sep L`, `r` is named `stem sep R`: the one the loop met first by its match, the
partner by the name that was looked up. -/
def GoodPair (names : List Name) (l r : Nat) : Prop :=
  ∃ stem sep, sep ≠ [] ∧ (∀ c ∈ sep, isSep c = true) ∧
    (((∃ n, names[l]? = some n ∧ stereoMatch n = some (stem, sep, 'L')) ∧ names[r]? = some (stem ++ sep ++ ['R'])) ∨
     (names[l]? = some (stem ++ sep ++ ['L']) ∧ ∃ n, names[r]? = some n ∧ stereoMatch n = some (stem, sep, 'R')))

/-- **C05 (channel order).** In every pair the pairing routine writes — `Group.pair l r _`, the first
index channel 0, the second channel 1 — `l` is the sample named `stem sep L` and `r` the one named
`stem sep R`, whatever the order of the two in the directory. -/
theorem C05_channels (names : List Name) (l r : Nat) (nm : Name)
    (h : Group.pair l r nm ∈ combine names) : GoodPair names l r := by
  obtain ⟨_, hgood⟩ := combine_induct names
    (fun _ _ acc => ∀ l r nm, Group.pair l r nm ∈ acc → GoodPair names l r)
    (fun _ _ _ _ _ _ h => h)
    (fun i _ _ acc _ _ _ hgood l r nm hm => hgood l r nm (by simpa using hm))
    (by
      intro i n _ acc stem sep side j nm g hni _ hsm hj hg hgood l r nm' hm
      rcases List.mem_append.mp hm with hm | hm
      · exact hgood l r nm' hm
      · obtain ⟨⟨hsep, hsepc, _⟩, _⟩ := stereoMatch_eq_some_iff.mp hsm
        rcases hg with ⟨rfl, rfl⟩ | ⟨rfl, rfl⟩ <;> cases List.mem_singleton.mp hm
        · exact ⟨stem, sep, hsep, hsepc, .inl ⟨⟨n, hni, hsm⟩, hj⟩⟩
        · exact ⟨stem, sep, hsep, hsepc, .inr ⟨hj, n, hni, hsm⟩⟩)
    (by intro l r nm hm; cases hm)
  exact hgood l r nm h

/-- non-vacuity: the right half first, the left half later. -/
example : combine ["A R".toList, "B".toList, "A L".toList] = [.pair 2 0 "A".toList, .mono 1] := by decide +kernel

end Smpl.Props.C05
