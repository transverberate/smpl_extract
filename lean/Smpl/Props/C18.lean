/-
C18 — Name, note and tuning codecs round-trip over their whole domains.
-/
import Smpl.Gen.Codec
import Smpl.Model.Codec

namespace Smpl.Props.C18
open Smpl.Codec

/-- The valid AKAI character codes are exactly 0x00..0x28; decoding then encoding returns the byte. -/
theorem C18_akai_bij : ∀ b : Fin 256,
    ((akaiToAscii b.val).isSome = decide (b.val ≤ 0x28)) ∧
    (∀ a, akaiToAscii b.val = some a → asciiToAkai a = some b.val) := by
  decide +kernel

/-- Only the 41 ASCII characters `0-9 A-Z # + - . space` are accepted, and encoding then decoding
returns the character: with `C18_akai_bij`, a bijection on 41 characters. -/
theorem C18_ascii_rej : ∀ a : Fin 256,
    ((asciiToAkai a.val).isSome =
      decide ((0x30 ≤ a.val ∧ a.val ≤ 0x39) ∨ (0x41 ≤ a.val ∧ a.val ≤ 0x5A) ∨
              a.val = 0x20 ∨ a.val = 0x23 ∨ a.val = 0x2B ∨ a.val = 0x2D ∨ a.val = 0x2E)) ∧
    (∀ b, asciiToAkai a.val = some b → akaiToAscii b = some a.val) := by
  decide +kernel

/-- bytes above 255 are rejected as well (the functions are applied to Python ints). -/
theorem C18_akai_rej_big (b : Nat) (h : 0x28 < b) : akaiToAscii b = none := by
  obtain ⟨k, rfl⟩ := Nat.exists_eq_add_of_le' h  -- `b = k + 0x29`
  simp [akaiToAscii]

private theorem akai_rt {b : Nat} (h : b ≤ 0x28) :
    ∃ a, akaiToAscii b = some a ∧ asciiToAkai a = some b := by
  have hb : b < 256 := by omega
  have := C18_akai_bij ⟨b, hb⟩
  have h1 : (akaiToAscii b).isSome = true := by simpa [h] using this.1
  obtain ⟨a, ha⟩ := Option.isSome_iff_exists.mp h1
  exact ⟨a, ha, this.2 a ha⟩

/-- the round trip for names of any length. -/
theorem C18_name (bs : List Nat) (h : ∀ b ∈ bs, b ≤ 0x28) :
    ∃ as, akaiToAsciiStr bs = some as ∧ asciiToAkaiStr as = some bs := by
  induction bs with
  | nil => exact ⟨[], rfl, rfl⟩
  | cons b bs ih =>
    obtain ⟨a, ha, hb⟩ := akai_rt (h b (List.mem_cons_self ..))
    obtain ⟨as, h1, h2⟩ := ih (fun x hx => h x (List.mem_cons_of_mem _ hx))
    refine ⟨a :: as, ?_, ?_⟩
    · simp [akaiToAsciiStr, ha, h1]
    · simp [asciiToAkaiStr, hb, h2]

theorem C18_name_rej (bs : List Nat) (b : Nat) (hb : b ∈ bs) (hbad : 0x28 < b) :
    akaiToAsciiStr bs = none := by
  induction bs with
  | nil => cases hb
  | cons x xs ih =>
    rcases List.mem_cons.mp hb with rfl | hx
    · simp [akaiToAsciiStr, C18_akai_rej_big b hbad]
    · simp [akaiToAsciiStr, ih hx]

/-- octaves 0..9 only: the pattern of `MidiNote.from_string` takes one digit. -/
theorem C18_note_text : ∀ d : Fin 7, ∀ s : Bool, ∀ o : Fin 10,
    noteFromString (noteToString ⟨d.val, s, (o.val : Int)⟩) = some ⟨d.val, s, (o.val : Int)⟩ := by
  decide +kernel

theorem C18_note_text_lower : ∀ d : Fin 7, ∀ s : Bool, ∀ o : Fin 10,
    noteFromString ((noteToString ⟨d.val, s, (o.val : Int)⟩).map Char.toLower)
      = some ⟨d.val, s, (o.val : Int)⟩ := by
  decide +kernel

/-- Table and round trip in one statement: the kernel shares the 256 evaluations of `parseCents`
between equal terms of one declaration only. -/
private theorem cents_sweep :
    Gen.Codec.centsBitsTbl =
      (List.range 256).map (fun (b : Nat) => (parseCents ((b : Int) - 128)).toBits.toNat) ∧
    ∀ b ∈ List.range 256, buildCents (parseCents ((b : Int) - 128)) = (b : Int) - 128 := by
  decide +kernel

/-- tuning byte -> cents -> tuning byte is the identity on all 256 byte values
(IEEE doubles evaluated by the kernel; Python's half-even `round`). -/
theorem C18_cents : ∀ b : Fin 256,
    buildCents (parseCents ((b.val : Int) - 128)) = (b.val : Int) - 128 :=
  fun b => cents_sweep.2 b (List.mem_range.2 b.isLt)

/-! ### tie to /repo: the translator's tables are the model's on all 256 bytes -/

theorem C18_gen_akaiToAscii :
    Gen.Codec.akaiToAsciiTbl = (List.range 256).map akaiToAscii := by decide +kernel
/-- the fast path of /repo has the table of the general conversion. -/
theorem C18_gen_fastAkaiToAscii :
    Gen.Codec.fastAkaiToAsciiTbl = (List.range 256).map akaiToAscii :=
  (rfl : Gen.Codec.fastAkaiToAsciiTbl = Gen.Codec.akaiToAsciiTbl).trans C18_gen_akaiToAscii
theorem C18_gen_asciiToAkai :
    Gen.Codec.asciiToAkaiTbl = (List.range 256).map asciiToAkai := by decide +kernel
theorem C18_gen_akaiNote :
    Gen.Codec.akaiNoteTbl =
      (List.range 256).map fun (b : Nat) => let x := fromAkaiByte b; (x.degree, x.sharp, x.octave) := by
  decide +kernel
/-- both A0 offsets are 21: the MIDI table is the AKAI table. -/
theorem C18_gen_midiNote :
    Gen.Codec.midiNoteTbl =
      (List.range 256).map fun (b : Nat) => let x := fromMidiByte b; (x.degree, x.sharp, x.octave) :=
  (rfl : Gen.Codec.midiNoteTbl = Gen.Codec.akaiNoteTbl).trans C18_gen_akaiNote
theorem C18_gen_noteRt :
    Gen.Codec.akaiNoteRtTbl = (List.range 256).map (fun (b : Nat) => (b : Int)) ∧
    Gen.Codec.midiNoteRtTbl = (List.range 256).map (fun (b : Nat) => (b : Int)) := by decide +kernel
theorem C18_gen_centsBits :
    Gen.Codec.centsBitsTbl =
      (List.range 256).map fun (b : Nat) => (parseCents ((b : Int) - 128)).toBits.toNat :=
  cents_sweep.1
theorem C18_gen_centsRt :
    Gen.Codec.centsRtTbl = (List.range 256).map fun (b : Nat) => ((b : Int) - 128) := by decide +kernel
theorem C18_gen_consts :
    Gen.Codec.noteRegexSrc = "([A-Ga-g])(#?)(\\d)" ∧ Gen.Codec.noteRegexFlags = 32 ∧
    Gen.Codec.notesInOctave = 12 ∧ Gen.Codec.akaiA0 = A0 ∧ Gen.Codec.midiA0 = A0 :=
  ⟨rfl, rfl, rfl, rfl, rfl⟩

example : akaiToAsciiStr [0x0B, 0x27, 0x16] = some [0x41, 0x2D, 0x4C] := by decide
example : fromIntA0 (-1) = ⟨6, true, -1⟩ := by decide
example : noteToString ⟨2, true, 4⟩ = ['C', '#', '4'] := by decide

end Smpl.Props.C18
