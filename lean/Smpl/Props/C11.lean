/-
C11 — Sample streams sharing one image file handle do not disturb one another.
-/
import Smpl.Props.C08

namespace Smpl.Props.C11
open Smpl Smpl.Stream Smpl.Spec Smpl.Props.C08

structure FileSpec where
  f  : FileLike
  c  : List Byte
  i  : Nat
  fp : List Nat

def curOf (fs : List FileSpec) (s : Store) (k : Nat) : Int :=
  match fs[k]? with
  | some x => (s x.i).pos
  | none => 0

/-- Hypotheses of C11: every stream is a read-only file over its own content, under one shared
invariant family, and no stream's own cell lies in another's footprint.  The footprints may overlap:
the streams may share the partition window, the data-area window, a raw-sector view and the OS file. -/
structure Family (ok : Nat → Cell → Prop) (fs : List FileSpec) : Prop where
  isFile : ∀ x ∈ fs, IsFile x.f x.c x.i x.fp ok
  apart  : ∀ (a b : Nat) (x y : FileSpec), fs[a]? = some x → fs[b]? = some y → a ≠ b → y.i ∉ x.fp

/-- **C11 (non-interference).** Any interleaving of `tell`/`seek`/`read` on any of the streams, with
any block sizes, run against the real objects over one shared store gives the answers of a family of
independent files, each with its own cursor. -/
theorem C11_noninterference {ok : Nat → Cell → Prop} {fs : List FileSpec} (hfam : Family ok fs)
    (sched : List (Nat × Op)) (hops : ∀ e ∈ sched, opOk e.2) (s : Store) (hs : GInv ok s) :
    (runSched (fs.map (·.f)) sched s).1 = absSched (fs.map (·.c)) (curOf fs s) sched := by
  induction sched generalizing s with
  | nil => rfl
  | cons e rest ih =>
    obtain ⟨k, op⟩ := e
    simp only [runSched, absSched, List.getElem?_map]
    cases hk : fs[k]? with
    | none =>
      simp only [Option.map_none]
      exact ih (fun e he => hops e (List.mem_cons_of_mem _ he)) s hs
    | some x =>
      simp only [Option.map_some]
      have hx : x ∈ fs := List.mem_of_getElem? hk
      have hop : opOk op := hops (k, op) (List.mem_cons_self ..)
      obtain ⟨h1, h2, h3, h4⟩ := step_refines (hfam.isFile x hx) op hop s hs
      have hcur : curOf fs s k = (s x.i).pos := by simp [curOf, hk]
      have hnext : curOf fs (runOp x.f op s).2
          = fun j => if j = k then (absStep x.c (curOf fs s k) op).2 else curOf fs s j := by
        funext j
        by_cases hj : j = k
        · subst hj; simp [curOf, hk, h2]
        · simp only [hj, if_false, curOf]
          cases hy : fs[j]? with
          | none => rfl
          | some y =>
            have : y.i ∉ x.fp := hfam.apart k j x y hk hy (fun e => hj e.symm)
            simp [h4 y.i this]
      rw [ih (fun e he => hops e (List.mem_cons_of_mem _ he)) _ h3, hnext, hcur, h1]

theorem opsOf_cons (a k : Nat) (op : Op) (rest : List (Nat × Op)) :
    opsOf a ((k, op) :: rest) = if k = a then op :: opsOf a rest else opsOf a rest := by
  simp only [opsOf, List.filter_cons, decide_eq_true_eq]
  split <;> rfl

/-- in the family of independent files, a file's answers within any schedule are those of running its
own operations alone. -/
theorem C11_projection (cs : List (List Byte)) (cur : Nat → Int) (sched : List (Nat × Op))
    (hvalid : ∀ e ∈ sched, e.1 < cs.length) (a : Nat) (c : List Byte) (ha : cs[a]? = some c) :
    ((sched.zip (absSched cs cur sched)).filter (fun p => p.1.1 = a)).map (·.2)
      = absRun c (cur a) (opsOf a sched) := by
  induction sched generalizing cur with
  | nil => rfl
  | cons e rest ih =>
    obtain ⟨k, op⟩ := e
    have hk : k < cs.length := hvalid (k, op) (List.mem_cons_self ..)
    have ih := ih (fun j => if j = k then (absStep cs[k] (cur k) op).2 else cur j)
      fun e he => hvalid e (List.mem_cons_of_mem _ he)
    simp only [absSched, List.getElem?_eq_getElem hk, List.zip_cons_cons, List.filter_cons, opsOf_cons,
      decide_eq_true_eq]
    by_cases hka : k = a
    · -- an operation of file `a`: answered from cursor `a`, which it moves
      subst hka
      obtain rfl : cs[k] = c := Option.some.inj ((List.getElem?_eq_getElem hk).symm.trans ha)
      simp only [if_true] at ih
      simp only [if_true, List.map_cons, absRun, ih]
    · -- an operation of another file: cursor `a` stays where it is
      simp only [if_neg (Ne.symm hka)] at ih
      simp only [if_neg hka, ih]

private theorem opsOf_flatMap {β : Type} (k : Nat) (l : List β) (F : β → List (Nat × Op)) :
    opsOf k (l.flatMap F) = l.flatMap fun b => opsOf k (F b) := by
  simp only [opsOf, List.filter_flatMap, List.map_flatMap]

/-- **C11, stereo instance.** The alternating block reads of a left and a right stream during a
stereo export (`decode_frame`: read left block, read right block, …) see exactly what isolated
sequential reads of each stream would see. -/
theorem C11_stereo {ok : Nat → Cell → Prop} {l r : FileSpec} (hfam : Family ok [l, r])
    (blocks : List (Int × Int)) (hb : ∀ b ∈ blocks, 0 ≤ b.1 ∧ 0 ≤ b.2) (s : Store) (hs : GInv ok s) :
    let sched := blocks.flatMap fun b => [(0, Op.read b.1), (1, Op.read b.2)]
    let outs := (runSched [l.f, r.f] sched s).1
    ((sched.zip outs).filter (fun p => p.1.1 = 0)).map (·.2)
        = absRun l.c (s l.i).pos (blocks.map fun b => Op.read b.1) ∧
    ((sched.zip outs).filter (fun p => p.1.1 = 1)).map (·.2)
        = absRun r.c (s r.i).pos (blocks.map fun b => Op.read b.2) := by
  intro sched outs
  have hsched : ∀ e ∈ sched, opOk e.2 ∧ e.1 < [l.c, r.c].length := by
    intro e he
    obtain ⟨b, hbm, he'⟩ := List.mem_flatMap.mp he
    have := hb b hbm
    simp only [List.mem_cons, List.mem_nil_iff, or_false] at he'
    rcases he' with rfl | rfl <;> simp [opOk, this.1, this.2]
  have hvalid := fun e he => (hsched e he).2
  have hrun : outs = absSched [l.c, r.c] (curOf [l, r] s) sched :=
    C11_noninterference hfam sched (fun e he => (hsched e he).1) s hs
  have hopsL : opsOf 0 sched = blocks.map fun b => Op.read b.1 :=
    (opsOf_flatMap 0 blocks _).trans List.map_eq_flatMap.symm
  have hopsR : opsOf 1 sched = blocks.map fun b => Op.read b.2 :=
    (opsOf_flatMap 1 blocks _).trans List.map_eq_flatMap.symm
  constructor
  · rw [hrun, C11_projection [l.c, r.c] _ sched hvalid 0 l.c rfl, hopsL]; rfl
  · rw [hrun, C11_projection [l.c, r.c] _ sched hvalid 1 r.c rfl, hopsR]; rfl

/-! non-vacuity: two chained files that share a window (object 1) and the OS file (object 0) -/

def exOk2 : Nat → Cell → Prop
  | 0, c => 0 ≤ c.pos
  | 1, c => 0 ≤ c.pos ∧ c.pos ≤ 8
  | 2, c => 0 ≤ c.pos ∧ c.pos ≤ 4
  | 3, c => 0 ≤ c.pos ∧ c.pos ≤ 4
  | _, _ => True

def exWin : Shape := .offset 1 (.base 0 [16, 17, 18, 19, 20, 21, 22, 23, 24, 25, 26, 27]) 8 2
def exA : Shape := .chain 2 exWin 2 [3, 0]
def exB : Shape := .chain 3 exWin 2 [1, 2]

def specOf (sh : Shape) : FileSpec := ⟨sh.build, sh.denote, sh.id, sh.fp⟩

example : Family exOk2 [specOf exA, specOf exB] where
  isFile := by
    intro x hx
    simp only [List.mem_cons, List.mem_nil_iff, or_false] at hx
    rcases hx with rfl | rfl
    · exact build_isFile exOk2 exA
        ⟨⟨fun _ => .rfl, by decide, by decide, by decide, by decide, fun _ => .rfl⟩,
          by decide, by decide, by decide, by decide, fun _ => .rfl⟩ rfl
    · exact build_isFile exOk2 exB
        ⟨⟨fun _ => .rfl, by decide, by decide, by decide, by decide, fun _ => .rfl⟩,
          by decide, by decide, by decide, by decide, fun _ => .rfl⟩ rfl
  apart := by
    intro a b x y ha hb hab
    rcases a with _ | _ | a
    · rcases b with _ | _ | b
      · exact absurd rfl hab
      · cases ha; cases hb; decide
      · cases hb
    · rcases b with _ | _ | b
      · cases ha; cases hb; decide
      · exact absurd rfl hab
      · cases hb
    · cases ha

end Smpl.Props.C11
