/-
Tie obligations for the module-level constants of /repo that the models restate: `Smpl.Gen.Consts`
is regenerated from the source on every run, and each theorem says that what the source defines now
is what the model uses.
-/
import Smpl.Gen.Consts
import Smpl.Model.Akai
import Smpl.Model.Alloc
import Smpl.Model.Roland
import Smpl.Model.Container
import Smpl.Model.Cdda
import Smpl.Model.ShortRead
import Smpl.Model.Stream

namespace Smpl.Props.Consts
open Smpl

/-- AKAI geometry and flags (C01, C07, C13, C14, C15, C20). -/
theorem K_akai :
    Gen.Consts.akaiSectorSize = Akai.SECTOR ∧
    Gen.Consts.akaiSatEntryCnt = Akai.SAT_ENTRIES ∧
    Gen.Consts.akaiVolumeEntryCnt = Akai.VOL_ENTRIES ∧
    Gen.Consts.akaiFileTableEnd = Akai.TABLE_END ∧
    Gen.Consts.akaiSampleWordLength = 2 ∧
    Gen.Consts.akaiDefaultSampleRate = 44100 ∧              -- `Akai.lean`: `if h.rate = 0 then 44100`
    Gen.Consts.akaiSatFree = Alloc.SAT_FREE ∧
    Gen.Consts.akaiSatEof = Alloc.SAT_EOF ∧
    Gen.Consts.akaiSatReservedStd = Alloc.SAT_RES1 ∧
    Gen.Consts.akaiSatReservedV2 = Alloc.SAT_RES2 := by decide

theorem K_akai_magic : Gen.Consts.akaiPartitionMagic = Akai.MAGIC := by decide +kernel

/-- Roland S-7xx geometry and FAT marks (C02, C07, C13, C14, C15, C20). -/
theorem K_roland :
    Gen.Consts.rolandClusterSize = Roland.CLUSTER ∧
    Gen.Consts.rolandSampleWidth = 2 ∧
    Gen.Consts.rolandNumKeys = 88 ∧
    Gen.Consts.rolandFatAreaOffset = Roland.FAT_OFF ∧
    Gen.Consts.rolandFatNumEntries = Roland.FAT_N ∧
    Gen.Consts.rolandDataFatOffset = Roland.DATA_FAT_OFF ∧
    Gen.Consts.rolandFatAreaId = 0xfffa ∧                    -- `Roland.parseFat`
    Gen.Consts.rolandFatVersion1 = 0xffff ∧
    Gen.Consts.rolandFatVersion2 = 0xfffe ∧
    Gen.Consts.rolandFatFree = Alloc.FAT_FREE ∧
    Gen.Consts.rolandFatReserved = Alloc.FAT_RESERVED ∧
    Gen.Consts.rolandFatError = Alloc.FAT_ERROR ∧
    Gen.Consts.rolandFatEnd = Alloc.FAT_END := by decide

open Roland in
theorem K_roland_areas :
    Gen.Consts.rolandDirOffsets = [Kind.vol, .perf, .patch, .part, .samp].map dirOff ∧
    Gen.Consts.rolandDirEntrySizes = [32, 32, 32, 32, 32] ∧   -- `Roland.dirRec`: `dirOff k + 32 * i`
    Gen.Consts.rolandParOffsets = [Kind.vol, .perf, .patch, .part, .samp].map parOff ∧
    Gen.Consts.rolandParEntrySizes = [Kind.vol, .perf, .patch, .part, .samp].map parSize ∧
    Gen.Consts.rolandMaxNums = [Kind.vol, .perf, .patch, .part, .samp].map maxNum := by decide +kernel

/-- raw-sector and MDX containers (C08, C09, C11). -/
theorem K_container :
    Gen.Consts.mdfSectorSize = Container.MDF_SECTOR ∧
    Gen.Consts.mdfHeaderSize = Container.MDF_HEADER ∧
    Gen.Consts.mdfBodySize = Container.MDF_BODY ∧
    Gen.Consts.mdfFooterSize = Container.MDF_FOOTER ∧
    Gen.Consts.mdfHeaderMagic = Container.MDF_SYNC ∧
    Gen.Consts.mdxHeaderMagic = Container.MDX_MAGIC ∧
    Gen.Consts.mdfSectorSize = Stream.MDF_SECTOR ∧
    Gen.Consts.mdfHeaderSize = Stream.MDF_HEADER ∧
    Gen.Consts.mdfBodySize = Stream.MDF_BODY := by decide +kernel

/-- CD audio (C03, C20) and the transcoder's block (C12, C15). -/
theorem K_cdda :
    Gen.Consts.cueFramesPerSecond = Cdda.FRAMES_PER_SECOND ∧
    Gen.Consts.cddaSamplesPerFrame = Cdda.SAMPLES_PER_FRAME ∧
    Gen.Consts.cddaBytesPerFrame = Cdda.BYTES_PER_FRAME ∧
    Gen.Consts.cddaSampleWidth = 2 ∧ Gen.Consts.cddaChannels = 2 ∧
    Gen.Consts.cddaSamplingRate = 44100 ∧                     -- `CddaTool`: the generalized sample of a track
    Gen.Consts.wavDefaultSampleRate = 44100 ∧                 -- `Wav.lean`: `if g.rate = 0 then 44100`
    Gen.Consts.transcoderBufferSize = ShortRead.READ_BLOCK := by decide

end Smpl.Props.Consts
