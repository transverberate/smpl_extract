/- C08 for the sample-reversed view `StreamReversed`, over any substream that behaves like a file. -/
import Smpl.Lemmas.Reversed

namespace Smpl.Props.C08
open Smpl Smpl.Stream

/-- row-aligned reads of the reversed view return the bytes of the row-reversed content and advance by
as many. -/
theorem C08_reversed_aligned {sub : FileLike} {csub : List Byte} {k : Nat} {fpk : List Nat}
    {ok : Nat → Cell → Prop} (hsub : IsSub sub csub k fpk ok) (i : Nat) (hi : i ∉ fpk)
    (w R : Nat) (hw : 0 < w) (hR : 0 < R) (hc : R * w ≤ csub.length)
    (hok : ∀ cell, ok i cell ↔ (0 ≤ cell.pos ∧ cell.pos ≤ ((R * w : Nat) : Int)))
    (s : Store) (hinv : GInv ok s) (q m : Nat) (hp : (s i).pos = ((q * w : Nat) : Int)) (hqm : q + m ≤ R) :
    ∃ s', (mkRev sub i ((R * w : Nat) : Int) w).read ((m * w : Nat) : Int) s
        = (.ok (((revContent w R csub).drop (q * w)).take (m * w)), s') ∧
      (s' i).pos = (((q + m) * w : Nat) : Int) ∧ GInv ok s' ∧ Frame (i :: fpk) s s' := by
  have hrows : (R - q - m) * w + (q * w + m * w) = R * w := by
    rw [← Nat.add_mul, ← Nat.add_mul, Nat.sub_sub, Nat.sub_add_cancel hqm]
  have ha : (R - q - m) * w + m * w ≤ csub.length :=
    Nat.le_trans (Nat.add_le_add_left (Nat.le_add_left ..) _) (hrows ▸ hc)
  have hmin : min (((R * w : Nat) : Int) - (s i).pos) ((m * w : Nat) : Int) = ((m * w : Nat) : Int) := by
    rw [hp]
    refine Int.min_eq_right (Int.le_sub_left_of_add_le ?_)
    rw [← Int.natCast_add, ← hrows]
    exact Int.ofNat_le.mpr (Nat.le_add_left ..)
  -- the request is translated to row `R−q−m`; `_read` turns the `m` rows found there around
  obtain ⟨s', h1, h2, h3, h4⟩ := wrapRead_ok hsub i ((R * w : Nat) : Int) hok
    (revTr ((R * w : Nat) : Int) w) (revRaw sub w) ((m * w : Nat) : Int) (Int.natCast_nonneg _) s hinv
    (((R - q - m) * w : Nat) : Int)
    (by rw [hmin, hp]; exact revTr_ok hrows (Nat.mul_mod_left ..) (Nat.mul_mod_left ..))
    (Int.natCast_nonneg _) (((revContent w R csub).drop (q * w)).take (m * w))
    (fun s2 hinv2 hpos2 => by
      rw [hmin, revContent_block w R csub hc q m hqm]
      exact revRaw_spec hsub hw ha _ hinv2 (hpos2 (Int.ofNat_le.mpr (Nat.le_trans (Nat.le_add_right ..) ha))))
  refine ⟨s', h1, ?_, h3, h4⟩
  rw [h2, hmin, hp, Nat.add_mul, Int.natCast_add]

/-- a size that is not a whole number of samples is rejected. -/
theorem C08_reversed_rejects_size (sub : FileLike) (i : Nat) (eof : Int) (w : Nat) (n : Int) (s : Store)
    (hn : ¬ (min (eof - (s i).pos) n < 0)) (hmis : (min (eof - (s i).pos) n) % (w : Int) ≠ 0) :
    ((mkRev sub i eof w).read n s).1 = .error .badReadSize := by
  simp only [mkRev, wrapRead, hn, if_false, revTr, hmis, ne_eq, not_false_eq_true, if_true]

/-- a position that is not on a sample boundary is rejected. -/
theorem C08_reversed_rejects_position (sub : FileLike) (i : Nat) (eof : Int) (w : Nat) (n : Int) (s : Store)
    (hn : ¬ (min (eof - (s i).pos) n < 0)) (hsz : (min (eof - (s i).pos) n) % (w : Int) = 0)
    (hmis : (eof - ((s i).pos + min (eof - (s i).pos) n)) % (w : Int) ≠ 0) :
    ((mkRev sub i eof w).read n s).1 = .error .badAlign := by
  simp only [mkRev, wrapRead, hn, if_false, revTr, hsz, ne_eq, not_true_eq_false, hmis, not_false_eq_true, if_true]

example : revContent 2 2 [1, 2, 3, 4, 9] = [3, 4, 1, 2] := by decide +kernel

end Smpl.Props.C08
