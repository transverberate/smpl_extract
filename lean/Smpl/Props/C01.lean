/-
C01 — AKAI export is byte-exact for every sector allocation and file length.
Here: one file of a parsed partition whose chain is resolved.
-/
import Smpl.Model.Akai
import Smpl.Lemmas.StreamSector
import Smpl.Lemmas.ShortRead

namespace Smpl.Props.C01
open Smpl Smpl.Akai Smpl.Alloc

/-- what the parser reads for a chained file is the stream layer's content of the corresponding
`FileStream`, so `mkChain_isFile` (Lemmas/StreamSector) applies to it. -/
theorem C01_segment_eq (p : Part) (path : List Nat) :
    segment p path = Smpl.Stream.secContent p.content SECTOR (path.map (· * SECTOR)) := by
  rw [segment, Smpl.Stream.secContent, List.map_map, List.flatMap_def]
  rfl

def SectorsInside (p : Part) (path : List Nat) : Prop := ∀ s ∈ path, (s + 1) * SECTOR ≤ p.content.length

theorem sector_full {p : Part} {s : Nat} (h : (s + 1) * SECTOR ≤ p.content.length) :
    ((p.content.drop (s * SECTOR)).take SECTOR).length = SECTOR := by
  rw [Nat.succ_mul] at h
  rw [List.length_take, List.length_drop, Nat.min_eq_left (Nat.le_sub_of_add_le' h)]

/-- on a complete partition the sequential content (what headers and directories are parsed from)
is the chain's sectors in chain order. -/
theorem C01_prefix_is_segment (p : Part) (path : List Nat) (h : SectorsInside p path) :
    segmentPrefix p path = segment p path := by
  induction path with
  | nil => rfl
  | cons s rest ih =>
    have hs : ¬ ((p.content.drop (s * SECTOR)).take SECTOR).length < SECTOR :=
      Nat.not_lt.mpr (Nat.le_of_eq (sector_full (h s (List.mem_cons_self ..))).symm)
    simp only [segmentPrefix, if_neg hs, ih fun x hx => h x (List.mem_cons_of_mem _ hx), segment, List.flatMap_cons]

/-- on a complete partition the content with holes has no hole. -/
theorem C01_holey_is_segment (p : Part) (path : List Nat) (h : SectorsInside p path) :
    segmentHoley p path = ⟨segment p path, []⟩ :=
  Smpl.ShortRead.ofPieces_map_full SECTOR path fun s hs => sector_full (h s hs)

/-- **C01 (audio of a file on a complete partition).** The block-wise reader returns exactly the
window `[off, off+len)` of the chain's sectors in chain order, cut to the directory entry's size. -/
theorem C01_file_audio (p : Part) (path : List Nat) (h : SectorsInside p path) (size off len : Nat) :
    Smpl.ShortRead.readForward ((segmentHoley p path).clip size) off len
      = (((segment p path).take size).drop off).take len := by
  rw [C01_holey_is_segment p path h]
  exact Smpl.ShortRead.readForward_complete (by simp [Smpl.ShortRead.Holey.clip, Smpl.ShortRead.Holey.complete]) off len

/-- **C01 (one sample file).** On a complete partition, an entry of sample type whose chain resolves
to `path` and whose header parses to `h` is realised as the sample with header `h` and the bytes
`[140 + 2·start, 140 + 2·end)` of the file content. -/
theorem C01_realize_sample (p : Part) (e : FileEntry) (path : List Nat) (h : SampleHdr)
    (programOk : Bytes → Bool)
    (hpath : getPath p.links SAT_ENTRIES e.start = .ok path) (hin : SectorsInside p path)
    (hty : isSampleType e.ftype = true)
    (hhdr : parseSampleHdr ((segment p path).take e.size) = some h) :
    realizeFile p e programOk = some ⟨e.name, e.ftype,
      .sample h (window ((segment p path).take e.size) (SAMPLE_HEADER_BYTES + 2 * h.start)
        (2 * ((h.end_ : Int) - h.start)))⟩ := by
  unfold realizeFile
  simp only [hpath, hty, if_true, C01_prefix_is_segment p path hin, hhdr, Option.map_some]
  refine congrArg (fun d => some (FileNode.mk e.name e.ftype (.sample h d))) ?_
  unfold window
  rw [C01_file_audio p path hin]

end Smpl.Props.C01
