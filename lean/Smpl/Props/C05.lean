/-
C05 — Left/right pairs merge into one stereo file; no sample is lost or duplicated.
-/
import Smpl.Model.Names
import Smpl.Lemmas.Stereo

namespace Smpl.Props.C05
open Smpl Smpl.Names

/-- **Shape of a stereo name.** A name the pairing rule recognises is `stem ++ separators ++ [L|R] ++
blanks` with a non-empty run of separators (blanks or hyphens): two names are paired only if they
differ in nothing but that final letter. -/
theorem C05_stereo_shape (s stem sep : Name) (side : Char) (h : stereoMatch s = some (stem, sep, side)) :
    sep ≠ [] ∧ (∀ c ∈ sep, isSep c = true) ∧ (side = 'L' ∨ side = 'R') ∧
    ∃ ws, (∀ c ∈ ws, isWs c = true) ∧ s = stem ++ sep ++ [side] ++ ws := by
  obtain ⟨⟨h1, h2, h3, _⟩, h4⟩ := stereoMatch_eq_some_iff.mp h
  exact ⟨h1, h2, h3, h4⟩

/-- **No sample is lost or duplicated.** For distinct sibling names without a blank at the end (export
names are stripped), the groups written by the pairing routine contain every sample exactly once. -/
theorem C05_partition (names : List Name) (hnd : names.Nodup) (hnt : ∀ n ∈ names, NoTail n) :
    (covered (combine names)).Perm (List.range names.length) := by
  rw [combine_eq_go]
  have h := go_partition names (lastIndex names) (fun _ _ => lastIndex_some) (fun _ => lastIndex_ne_none)
    hnd hnt names 0 [] names [] (by simp)
    ⟨by simp [covered], by simp [covered], fun k hk => absurd hk (Nat.not_lt_zero k), by intro m hm; cases hm⟩
  rw [List.perm_ext_iff_of_nodup h.1 List.nodup_range]
  intro k
  rw [h.2 k]; simp

/-- premises satisfiable: three names, one pair. -/
example : covered (combine ["A L".toList, "B".toList, "A R".toList]) = [0, 2, 1] := by decide +kernel

example : stereoMatch "PAD - L".toList = some ("PAD".toList, " - ".toList, 'L') := by decide +kernel
example : stereoMatch "PADL".toList = none := by decide +kernel
example : stereoMatch "A L L".toList = some ("A L".toList, " ".toList, 'L') := by decide +kernel
example : combine ["A L".toList, "B".toList, "A R".toList, "A".toList]
    = [.pair 0 2 "A (2)".toList, .mono 1, .mono 3] := by decide +kernel

end Smpl.Props.C05
