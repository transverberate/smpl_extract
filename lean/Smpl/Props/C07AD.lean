/-
C07 — AKAI directory areas: a run of consecutive reserved-flag sectors (0x4000 / 0x8000) is installed as
the chain of exactly those sectors.
-/
import Smpl.Props.C07A

namespace Smpl.Props.C07
open Smpl Smpl.Alloc

def runList (d k : Nat) : List Nat := List.range' d k

/-- Sectors `d .. d+k-1` are a run of directory sectors that continues no earlier run and that no
link word points into. -/
structure DirRun (words : Array Nat) (d k : Nat) : Prop where
  pos   : 0 < k
  dir   : ∀ j, j < k → ∃ v, words[d + j]? = some v ∧ isDirWord v = true
  stop  : (∃ w, words[d + k]? = some w ∧ isDirWord w = false) ∨ d + k = words.size
  first : d = 0 ∨ ∃ u, words[d - 1]? = some u ∧ isDirWord u = false
  nolink : ∀ (y v : Nat), words[y]? = some v → isDirWord v = false → ¬ (d ≤ v ∧ v < d + k)

def inRun (d k x : Nat) : Prop := d ≤ x ∧ x < d + k

theorem mem_runList {d k x : Nat} : x ∈ runList d k ↔ inRun d k x := List.mem_range'_1

theorem runList_succ (d j : Nat) : (runList d (j + 1)).reverse = (d + j) :: (runList d j).reverse := by
  unfold runList
  rw [List.range'_concat]
  simp

theorem runList_ne_nil (d : Nat) {k : Nat} (h : 0 < k) : runList d k ≠ [] := by
  simp [runList]; omega

theorem runList_headD (d : Nat) {k : Nat} (h : 0 < k) : (runList d k).headD 0 = d := by
  cases k with
  | zero => omega
  | succ k => simp [runList, List.range'_succ]

theorem DirRun.le_size {words : Array Nat} {d k : Nat} (hr : DirRun words d k) : d + k ≤ words.size := by
  rcases hr.stop with ⟨w, hw, _⟩ | h
  · exact Nat.le_of_lt (lt_of_getElem? hw)
  · exact Nat.le_of_eq h

theorem DirRun.astep {words : Array Nat} {d k : Nat} (hr : DirRun words d k) (a b : Nat)
    (hs : AStep words a b) (ha : ¬ inRun d k a) : ¬ inRun d k b := by
  obtain ⟨v, hw, ⟨hd, _, rfl⟩ | ⟨hd, rfl⟩⟩ := hs
  · exact hr.nolink a b hw hd
  · -- `a + 1` is in the run and `a` is not: `a + 1` is its first sector
    intro hin
    have had : a < d := Nat.lt_of_not_le fun h => ha ⟨h, Nat.lt_trans (Nat.lt_succ_self a) hin.2⟩
    rcases hr.first with h0 | ⟨u, hu, hud⟩
    · exact absurd had (h0 ▸ Nat.not_lt_zero a)
    · rw [Nat.le_antisymm hin.1 had, Nat.add_sub_cancel, hw] at hu
      cases hu
      rw [hd] at hud; cases hud

/-- a walk that starts outside the run, with nothing of the run on its list, never touches the run. -/
theorem akaiWalk_avoids (words : Array Nat) (d k : Nat) (hr : DirRun words d k)
    (st : AkaiSt) (lst : List Nat) (sub : Nat) :
    ∀ st', ¬ inRun d k sub → (∀ x ∈ lst, ¬ inRun d k x) → akaiWalk words st lst sub = .ok st' →
      ∀ x, inRun d k x → st'.links[x]? = st.links[x]? ∧ st'.dirty[x]? = st.dirty[x]? := by
  intro st' hsub hlst he x hx
  obtain ⟨w, hw, hp, hd, hl⟩ := akaiWalk_spec he
  -- the walk stays outside the run, so `x` is on no list that is flagged or installed
  have hxw : x ∉ w := by
    rcases hw with ⟨rfl, _⟩ | ⟨t, rfl⟩
    · exact List.not_mem_nil
    · exact fun h => (List.mem_cons.mp h).elim (fun e : x = sub => hsub (e ▸ hx))
        (fun h => Path.closed hr.astep (l := []) hp hsub x h hx)
  have hall : x ∉ lst.reverse ++ w := fun h =>
    (List.mem_append.mp h).elim (fun h => hlst x (List.mem_reverse.mp h) hx) hxw
  refine ⟨?_, hd ▸ mark_of_not_mem hxw⟩
  rcases hl with hl | ⟨ls, hadd, hl | ⟨z, v, hz, _, hl⟩⟩
  · rw [hl]
  · rw [hl, addLinks_of_not_mem hadd hall]
  · rw [hl, List.getElem?_set_ne (fun e : z = x => hxw (e ▸ List.mem_of_getLast? hz)), addLinks_of_not_mem hadd hall]

def AtRun (d k : Nat) (st : AkaiSt) (lst : List Nat) (sub : Nat) : Prop :=
  ∃ j, j ≤ k ∧ sub = d + j ∧ lst = (runList d j).reverse ∧ (0 < j → st.prevDir = true) ∧
    ∀ x, d ≤ x → x < d + j → st.dirty[x]? = some true

/-- `hsize`: in a table of at most 0x4000 entries a directory word names no sector of it, so the test
`value_current < size and dirty_flags[value_current]` fails on it. -/
theorem akaiWalk_dirWord {words : Array Nat} {st : AkaiSt} {lst : List Nat} {sub v : Nat}
    (hw : words[sub]? = some v) (hd : isDirWord v = true) (hsize : words.size ≤ SAT_RES1) :
    akaiWalk words st lst sub =
      if sub + 1 < words.size then
        akaiWalk words { st with dirty := st.dirty.setIfInBounds sub true, prevDir := true } (sub :: lst) (sub + 1)
      else (addLinks (sub :: lst).reverse st.links).map
        fun ls => { links := ls, dirty := st.dirty.setIfInBounds sub true, prevDir := true } := by
  have hv : v ≠ SAT_FREE ∧ v ≠ SAT_EOF ∧ ¬ v < words.size := by
    rcases (by simpa [isDirWord] using hd : v = SAT_RES1 ∨ v = SAT_RES2) with rfl | rfl
    · exact ⟨by decide, by decide, Nat.not_lt.mpr hsize⟩
    · exact ⟨by decide, by decide, Nat.not_lt.mpr (Nat.le_trans hsize (by decide))⟩
  rw [akaiWalk]
  split
  · rename_i h; cases hw.symm.trans h
  · rename_i v' h
    cases hw.symm.trans h
    simp [hd, hv]
    -- the model's `match` on the result of `addLinks` is `Except.map`
    generalize addLinks _ st.links = r
    cases r <;> rfl

theorem akaiWalk_afterRun {words : Array Nat} {st : AkaiSt} {lst : List Nat} {sub v : Nat}
    (hw : words[sub]? = some v) (hd : isDirWord v = false) (hp : st.prevDir = true) (hl : lst ≠ []) :
    akaiWalk words st lst sub =
      (addLinks lst.reverse st.links).map fun ls => { st with links := ls, prevDir := false } := by
  rw [akaiWalk]
  split
  · rename_i h; cases hw.symm.trans h
  · rename_i v' h
    cases hw.symm.trans h
    simp [hd, hp, hl]
    generalize addLinks _ st.links = r
    cases r <;> rfl

theorem flagged_succ {dirty : Array Bool} {d j : Nat} (h : ∀ x, d ≤ x → x < d + j → dirty[x]? = some true)
    (hj : d + j < dirty.size) : ∀ x, d ≤ x → x < d + (j + 1) → (dirty.setIfInBounds (d + j) true)[x]? = some true := by
  intro x h1 h2
  rw [Array.getElem?_setIfInBounds]
  by_cases e : d + j = x
  · rw [if_pos e, if_pos hj]
  · rw [if_neg e]; exact h x h1 (lt_of_lt_succ_of_ne h2 e)

/-- the walk through a directory run installs exactly the run. -/
theorem akaiWalk_run (words : Array Nat) (d k : Nat) (hr : DirRun words d k) (hsize : words.size ≤ SAT_RES1)
    (st : AkaiSt) (lst : List Nat) (sub : Nat) :
    ∀ st', AtRun d k st lst sub → sub < words.size → st.dirty.size = words.size → akaiWalk words st lst sub = .ok st' →
      addLinks (runList d k) st.links = .ok st'.links ∧ ∀ x, inRun d k x → st'.dirty[x]? = some true := by
  rintro st' ⟨j, hj, rfl, rfl, hp, hdirty⟩ hsublt hdsz he
  induction hn : k - j generalizing j st with
  | zero =>
    cases Nat.le_antisymm hj (Nat.le_of_sub_eq_zero hn)
    rcases hr.stop with ⟨w, hw, hwd⟩ | hend
    · rw [akaiWalk_afterRun hw hwd (hp hr.pos) (by simpa using runList_ne_nil d hr.pos)] at he
      obtain ⟨ls, hadd, rfl⟩ := map_eq_ok he
      exact ⟨by simpa using hadd, fun x hx => hdirty x hx.1 hx.2⟩
    · exact absurd hend (Nat.ne_of_lt hsublt)
  | succ n ih =>
    have hjk : j < k := Nat.lt_of_sub_eq_succ hn
    obtain ⟨v, hw, hdv⟩ := hr.dir j hjk
    have hflag := flagged_succ hdirty (hdsz ▸ hsublt)
    rw [akaiWalk_dirWord hw hdv hsize, ← runList_succ] at he
    by_cases hlt : d + j + 1 < words.size
    · rw [if_pos hlt] at he
      exact ih { st with dirty := st.dirty.setIfInBounds (d + j) true, prevDir := true } (j + 1) hjk
        (fun _ => rfl) hflag hlt (by simpa using hdsz) he (by rw [Nat.sub_succ, hn, Nat.pred_succ])
    · -- the run ends with the table
      rw [if_neg hlt] at he
      have hk : d + k ≤ d + (j + 1) := Nat.le_trans hr.le_size (Nat.le_of_not_lt hlt)
      cases Nat.le_antisymm (Nat.le_of_add_le_add_left hk) hjk
      obtain ⟨ls, hadd, rfl⟩ := map_eq_ok he
      exact ⟨by simpa using hadd, fun x hx => hflag x hx.1 hx.2⟩

theorem chain_congr {ls ls' : List Link} {c : List Nat} (heq : ∀ x ∈ c, ls'[x]? = ls[x]?) (h : Chain ls c) :
    Chain ls' c :=
  chain_iff.mpr ⟨(chain_iff.mp h).1, (chain_iff.mp h).2.imp_mem
    (fun a ha _ ⟨l, hl, h⟩ => ⟨l, heq a ha ▸ hl, h⟩)
    (fun a ha ⟨l, hl, h⟩ => ⟨l, heq a (List.mem_of_getLast? ha) ▸ hl, h⟩)⟩

structure RInv (wa : Array Nat) (d k i : Nat) (st : AkaiSt) : Prop where
  len    : st.links.length = wa.size
  dsize  : st.dirty.size = wa.size
  before : i ≤ d → ∀ x, inRun d k x → st.dirty[x]? = some false
  after  : d < i → Chain st.links (runList d k) ∧ ∀ x, inRun d k x → st.dirty[x]? = some true

/-- **AKAI directory areas are decoded as runs.** In a table of at most 0x4000 entries (the real one has
11386), a run of `k ≥ 1` reserved-flag sectors from `d` that no link word points into, that continues no
earlier run, and that is followed by a sector not so flagged or ends with the table (after the `fix:` of
D18) is installed as the chain `d, …, d+k-1`: `get_path` from `d` resolves exactly it, whatever the rest
of the table holds and whatever word the sector after the run carries. -/
theorem C07_akai_dir_run (words : List Nat) (links : List Link) (h : akaiDecode words = .ok links)
    (hsize : words.length ≤ SAT_RES1) (d k : Nat) (hr : DirRun words.toArray d k) :
    Chain links (runList d k) ∧ getPath links words.length d = .ok (runList d k) := by
  have hstople : d + k ≤ words.length := hr.le_size
  have hpos := hr.pos
  have hdin : inRun d k d := ⟨Nat.le_refl _, Nat.lt_add_of_pos_right hpos⟩
  obtain ⟨st, _, hfin, rfl⟩ := akaiDecode_inv (RInv words.toArray d k)
    ⟨List.length_replicate, Array.size_replicate, fun _ x hx => by
      rw [Array.getElem?_replicate, if_pos (Nat.lt_of_lt_of_le hx.2 hstople)], fun h => absurd h (Nat.not_lt_zero d)⟩
    (fun i st hinv hd => ⟨hinv.len, hinv.dsize, fun h => hinv.before (Nat.le_of_succ_le h), fun h => by
      by_cases e : i = d
      · cases hd.symm.trans (hinv.before (Nat.le_of_eq e) i (e ▸ hdin))
      · exact hinv.after (lt_of_lt_succ_of_ne h e)⟩)
    (fun i st st' hi _ hb' hinv hd he => by
      suffices h : (i + 1 ≤ d → ∀ x, inRun d k x → st'.dirty[x]? = some false) ∧
          (d < i + 1 → Chain st'.links (runList d k) ∧ ∀ x, inRun d k x → st'.dirty[x]? = some true) from
        ⟨hb'.len, hb'.dsize, h.1, h.2⟩
      by_cases e : i = d
      · -- from the run's first sector
        subst e
        obtain ⟨hadd, hdirty⟩ := akaiWalk_run _ i k hr hsize st [] i st'
          ⟨0, Nat.zero_le k, rfl, rfl, fun h => absurd h (Nat.lt_irrefl 0),
            fun x h1 h2 => absurd h2 (Nat.not_lt.mpr h1)⟩ hi hinv.dsize he
        obtain ⟨ls, h1, _, h3, _⟩ := C07_addLinks_chain (runList i k) st.links
          (runList_ne_nil i hpos)
          List.nodup_range' (fun s hs => by rw [mem_runList] at hs; rw [hinv.len]; exact Nat.lt_of_lt_of_le hs.2 hr.le_size)
        cases h1.symm.trans hadd
        exact ⟨fun h => absurd h (Nat.not_succ_le_self i), fun _ => ⟨h3, hdirty⟩⟩
      · -- from outside the run
        have hout : ¬ inRun d k i := fun hin => by
          rcases Nat.lt_or_ge d i with h | h
          · cases hd.symm.trans ((hinv.after h).2 i hin)
          · exact e (Nat.le_antisymm h hin.1)
        have hav := akaiWalk_avoids _ d k hr st [] i st' hout (fun _ hx => absurd hx List.not_mem_nil) he
        have hafter := fun h : d < i + 1 => hinv.after (lt_of_lt_succ_of_ne h e)
        exact ⟨fun h x hx => (hav x hx).2 ▸ hinv.before (Nat.le_of_succ_le h) x hx, fun h =>
          ⟨chain_congr (fun x hx => (hav x (mem_runList.mp hx)).1) (hafter h).1,
            fun x hx => (hav x hx).2 ▸ (hafter h).2 x hx⟩⟩) h
  have hchain := (hfin.after (Nat.lt_of_lt_of_le hdin.2 hstople)).1
  have := C07_getPath_wf _ words.length _ hchain
    (by rw [runList, List.length_range']; exact Nat.le_trans (Nat.le_add_left k d) hstople)
  rw [runList_headD d hpos] at this
  exact ⟨hchain, this⟩

theorem DirRun.of_decide {words : Array Nat} {d k : Nat} (pos : 0 < k)
    (dir : ∀ j, j < k → (words[d + j]?.map isDirWord) = some true)
    (stop : (words[d + k]?.map isDirWord) = some false ∨ d + k = words.size)
    (first : d = 0 ∨ (words[d - 1]?.map isDirWord) = some false)
    (nolink : ∀ v ∈ words.toList, isDirWord v = false → ¬ (d ≤ v ∧ v < d + k)) : DirRun words d k :=
  ⟨pos, fun j hj => Option.map_eq_some_iff.mp (dir j hj), stop.imp Option.map_eq_some_iff.mp id,
    first.imp id Option.map_eq_some_iff.mp, fun _ v hy => nolink v (Array.mem_def.mp (Array.mem_of_getElem? hy))⟩

/-- premises satisfiable: a run 3,4 (mixed flags) before an end mark, after a free sector, beside a chain. -/
example : DirRun #[0x4000, 0xC000, 0, 0x8000, 0x4000, 0xC000, 7, 0xC000] 3 2 :=
  .of_decide (by decide) (by decide) (by decide) (by decide) (by decide)

/-- premises satisfiable, the other ending: a run 6,7 that ends with the table. -/
example : DirRun #[0x4000, 0xC000, 0, 0, 0, 0, 0x8000, 0x4000] 6 2 :=
  .of_decide (by decide) (by decide) (by decide) (by decide) (by decide)

end Smpl.Props.C07
