/-
C02 — `export` of a Roland tree whose items carry clean, pairwise distinct names that are no halves
of a pair: one performance, the bytes of each file, the whole tree.
-/
import Smpl.Props.Export
import Smpl.Model.RolandTool
import Smpl.Props.C06

namespace Smpl.Props.C02
open Smpl Smpl.Roland Smpl.RolandTool Smpl.Names Smpl.Transcode Smpl.Props.C06 Smpl.Props.C01

def samplesOf (p : PerfNode) : List SampleNode := p.patches.flatMap (·.samples)

def exportSampleR (img : Img) (dir : List Name) (s : SampleNode) : Except Err Smpl.AkaiTool.Exported :=
  match sampleData img s with
  | none => .error .other
  | some d => do
    let w ← Smpl.AkaiTool.exportOne (genSample s) [⟨monoEnc, d⟩]
    pure ⟨exportPath (dir ++ [s.rec_.name]), w⟩

/-- **C02 (one performance).** A performance whose patches and referenced samples carry clean, pairwise
distinct names, the samples' names being no pair halves, is exported as exactly one file per
referenced sample, patch by patch in slot order, each at `<dir>/<stored name>.wav` with the WAV
`export_wav` builds from its record and data window. -/
theorem C02_export_perf (img : Img) (dir : List Name) (p : PerfNode)
    (hclean : ∀ f ∈ perfFiles p, CleanName f.name) (hnd : ((perfFiles p).map (·.name)).Nodup)
    (hmono : ∀ s ∈ samplesOf p, stereoMatch s.rec_.name = none) :
    exportPerf img dir p = (samplesOf p).mapM (exportSampleR img dir) := by
  have hsnd : ((samplesOf p).map (·.rec_.name)).Nodup := by
    rw [perfFiles, List.map_append, List.map_map, List.map_map] at hnd
    exact (List.nodup_append.mp hnd).2.1
  simp only [exportPerf, assign, assign_clean hclean hnd, bind, Except.bind]
  -- the samples with their export names, as the model filters them out of the performance's items
  generalize hS : List.filterMap _ ((perfFiles p).zip (List.map (fun f => (f.name, f.name)) (perfFiles p))) = S
  obtain rfl : S = (samplesOf p).map fun s => (s, s.rec_.name) := by
    -- the programs are dropped, every sample is kept
    rw [← hS, ← List.map_prod_left_eq_zip, List.filterMap_map, perfFiles, List.filterMap_append, List.filterMap_map,
      List.filterMap_map]
    exact (congr (congrArg _ (List.filterMap_eq_nil_iff.mpr fun _ _ => rfl))
      (congrFun (List.filterMap_eq_map' (f := fun s : SampleNode => (s, s.rec_.name))) _)).trans (List.nil_append _)
  rw [List.map_map]
  exact mapM_combine_mono hsnd hmono fun i x hx => by
    simp only [List.getElem?_map, hx, Option.map_some, exportSampleR, bind, Except.bind]; rfl

/-- the bytes of one exported mono sample (the Roland counterpart of `C01_export_mono_wav`). -/
theorem exportOne_mono (g : Smpl.Wav.GenSample) (hch : g.channels = 1) (d : Bytes) :
    Smpl.AkaiTool.exportOne g [⟨monoEnc, d⟩] =
      match Smpl.Wav.buildWav (Smpl.Wav.metaOf g) (wholeFrames 2 d) with
      | .error e => .error e
      | .ok bs => .ok ((bs.take (bs.length - (wholeFrames 2 d).length)).map some ++ (wholeFrames 2 d).map some) :=
  Smpl.Props.C01.exportOne_mono_wav g hch d

/-- so `exportOne_mono` applies to a Roland sample. -/
theorem genSample_channels (s : SampleNode) : (genSample s).channels = 1 := rfl

/-- the premises of `C02_export_perf` for one performance. -/
structure PlainPerf (p : PerfNode) : Prop where
  clean : ∀ f ∈ perfFiles p, CleanName f.name
  nodup : ((perfFiles p).map (·.name)).Nodup
  mono  : ∀ s ∈ samplesOf p, stereoMatch s.rec_.name = none

def exportVolumeR (img : Img) (v : VolNode) : Except Err (List Smpl.AkaiTool.Exported) := do
  let perPerf ← v.perfs.mapM fun p => (samplesOf p).mapM (exportSampleR img [v.name, p.name])
  pure perPerf.flatten

/-- **C02 (whole tree).** If the volumes carry clean, pairwise distinct names, the performances of each
volume likewise, and every performance is a `PlainPerf`, `export` writes, in stored order, exactly one
WAV per referenced sample at `<volume>/<performance>/<name>.wav` (bytes: `exportOne_mono`, on the
window `sampleData` addresses) and nothing else. -/
theorem C02_export_tree (img : Img) (vols : List VolNode)
    (hv : (∀ v ∈ vols, CleanName v.name) ∧ (vols.map (·.name)).Nodup)
    (hp : ∀ v ∈ vols, (∀ p ∈ v.perfs, CleanName p.name) ∧ (v.perfs.map (·.name)).Nodup)
    (hplain : ∀ v ∈ vols, ∀ p ∈ v.perfs, PlainPerf p) :
    exportOf img vols = (do
      let perVol ← vols.mapM (exportVolumeR img)
      pure perVol.flatten) := by
  simp only [exportOf, assign, assign_clean hv.1 hv.2, bind, Except.bind, ← List.map_prod_left_eq_zip, List.mapM_map]
  rw [mapM_congr (l := vols) (g := exportVolumeR img)]
  intro v hvm
  simp only [Function.comp, assign_clean (hp v hvm).1 (hp v hvm).2, exportVolumeR, bind,
    Except.bind, ← List.map_prod_left_eq_zip, List.mapM_map]
  rw [mapM_congr (l := v.perfs) (g := fun p => (samplesOf p).mapM (exportSampleR img [v.name, p.name]))]
  intro q hq
  obtain ⟨h1, h2, h3⟩ := hplain v hvm q hq
  rw [Function.comp]
  exact C02_export_perf img [v.name, q.name] q h1 h2 h3

end Smpl.Props.C02
