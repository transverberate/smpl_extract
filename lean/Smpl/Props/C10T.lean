/-
C10 — the surface syntax of a path: the printed names joined with `/`, `\` or `\\` are tokenised back
to exactly those names.
-/
import Smpl.Props.C10
import Smpl.Lemmas.Trim

namespace Smpl.Props.C10
open Smpl Smpl.Names

def NoSep (n : Name) : Prop := ∀ c ∈ n, c ≠ '/' ∧ c ≠ '\\'

/-- the separators `parse_path` splits at (`Names.isSep` is the stereo rule's blank or hyphen). -/
inductive IsSep : Name → Prop
  | slash : IsSep ['/']
  | bs : IsSep ['\\']
  | bs2 : IsSep ['\\', '\\']

/-- the names joined by the given separators (one fewer than names). -/
def joinWith : List Name → List Name → Name
  | [], _ => []
  | [n], _ => n
  | n :: m :: ns, s :: ss => n ++ s ++ joinWith (m :: ns) ss
  | n :: m :: ns, [] => n ++ joinWith (m :: ns) []

theorem joinWith_one (n : Name) (seps : List Name) : joinWith [n] seps = n := rfl

theorem joinWith_cons_cons (n m s : Name) (ns ss : List Name) :
    joinWith (n :: m :: ns) (s :: ss) = n ++ s ++ joinWith (m :: ns) ss := rfl

theorem go_char {cur rest : Name} {acc : List Name} {c : Char} (h1 : c ≠ '/') (h2 : c ≠ '\\') :
    splitPath.go cur acc (c :: rest) = splitPath.go (c :: cur) acc rest := by
  -- the splitter's last equation; its side conditions say that `c` starts no separator
  rw [splitPath.go] <;> simp [h1, h2]

theorem go_name {acc : List Name} {n cur rest : Name} (h : NoSep n) :
    splitPath.go cur acc (n ++ rest) = splitPath.go (n.reverse ++ cur) acc rest := by
  induction n generalizing cur with
  | nil => rfl
  | cons c cs ih =>
    have hc := h c (by simp)
    rw [List.cons_append, go_char hc.1 hc.2, ih fun x hx => h x (by simp [hx])]
    simp

theorem go_sep {cur s rest : Name} {acc : List Name} (hs : IsSep s)
    (hrest : rest.head? ≠ some '\\') :
    splitPath.go cur acc (s ++ rest) = splitPath.go [] (cur.reverse :: acc) rest := by
  cases hs with
  | slash => simp [splitPath.go]
  | bs2 => simp [splitPath.go]
  | bs =>
    cases rest with
    | nil => simp [splitPath.go]
    | cons r rs =>
      have hr : r ≠ '\\' := by intro e; subst e; simp at hrest
      simp [splitPath.go, hr]

theorem joinWith_cons (m : Name) (ms seps : List Name) : ∃ r, joinWith (m :: ms) seps = m ++ r := by
  cases ms with
  | nil => exact ⟨[], by rw [joinWith_one, List.append_nil]⟩
  | cons k ks =>
    cases seps with
    | nil => exact ⟨_, rfl⟩
    | cons s ss => exact ⟨s ++ joinWith (k :: ks) ss, by rw [joinWith_cons_cons, List.append_assoc]⟩

theorem go_join {n cur tail : Name} {ns seps acc tl : List Name} (hall : ∀ x ∈ n :: ns, x ≠ [] ∧ NoSep x)
    (hlen : seps.length = ns.length) (hseps : ∀ s ∈ seps, IsSep s)
    (htail : ∀ cur' acc', splitPath.go cur' acc' tail = (acc'.reverse ++ [cur'.reverse]) ++ tl) :
    splitPath.go cur acc (joinWith (n :: ns) seps ++ tail)
      = acc.reverse ++ [cur.reverse ++ n] ++ ns ++ tl := by
  induction ns generalizing n seps cur acc with
  | nil =>
    have hn := hall n List.mem_cons_self
    rw [joinWith_one, go_name hn.2, htail]
    simp
  | cons m ms ih =>
    have hn := hall n List.mem_cons_self
    have hm := hall m (List.mem_cons_of_mem _ List.mem_cons_self)
    cases seps with
    | nil => cases hlen
    | cons s ss =>
      -- what follows the separator starts with a character of `m`, which is no backslash
      obtain ⟨c, cs, rfl⟩ := List.exists_cons_of_ne_nil hm.1
      obtain ⟨r, hr⟩ := joinWith_cons (c :: cs) ms ss
      have hhead : (joinWith ((c :: cs) :: ms) ss ++ tail).head? ≠ some '\\' := by
        simpa [hr] using (hm.2 c List.mem_cons_self).2
      simp only [joinWith_cons_cons, List.append_assoc]
      rw [go_name hn.2, go_sep (hseps s List.mem_cons_self) hhead,
        ih (fun x hx => hall x (List.mem_cons_of_mem _ hx)) (Nat.succ.inj hlen)
          fun x hx => hseps x (List.mem_cons_of_mem _ hx)]
      simp

theorem dropWhile_head (p : Name) (c : Char) (rest : Name) (hp : p = c :: rest) (hc : isWs c = false) :
    p.dropWhile isWs = p := by
  subst hp; simp [hc]

theorem strip_around (ws1 ws2 p : Name) (h1 : ∀ c ∈ ws1, isWs c = true) (h2 : ∀ c ∈ ws2, isWs c = true)
    (c : Char) (rest : Name) (hp : p = c :: rest) (hc : isWs c = false)
    (d : Char) (init : Name) (hq : p = init ++ [d]) (hd : isWs d = false) :
    strip (ws1 ++ p ++ ws2) = p := by
  subst hp
  rw [strip_eq_trim, trim_around h1 h2]
  refine trim_eq_self (fun _ e => by cases e; exact hc) fun x e => ?_
  rw [hq, List.getLast?_concat] at e
  cases e
  exact hd

theorem getLast?_append_singleton' {α : Type} (l : List α) (a : α) : (l ++ [a]).getLast? = some a :=
  List.getLast?_concat

theorem go_closing {t : Name} (ht : t = [] ∨ IsSep t) :
    ∃ tl, (tl = [] ∨ tl = [[]]) ∧ (∀ x, t.getLast? = some x → isWs x = false) ∧
      ∀ cur acc, splitPath.go cur acc t = (acc.reverse ++ [cur.reverse]) ++ tl := by
  rcases ht with rfl | ht
  · exact ⟨[], .inl rfl, by simp, fun cur acc => by simp [splitPath.go]⟩
  · refine ⟨[[]], .inr rfl, ?_, fun cur acc => ?_⟩
    · cases ht <;> rintro _ ⟨⟩ <;> decide
    · simpa [splitPath.go] using go_sep (cur := cur) (acc := acc) (rest := []) ht (by simp)

/-- **C10 (surface syntax).** Let `n :: ns` be non-empty printed names without path separators, joined by
any of `/`, `\`, `\\`, the text neither starting nor ending with a blank (printed names are stripped).
With any blanks around it, and with or without one closing separator, `parse_path` tokenises the text
to exactly those names. -/
theorem C10_tokenize (n : Name) (ns seps : List Name)
    (hall : ∀ x ∈ n :: ns, x ≠ [] ∧ NoSep x) (hlen : seps.length = ns.length) (hseps : ∀ s ∈ seps, IsSep s)
    (ws1 ws2 : Name) (h1 : ∀ c ∈ ws1, isWs c = true) (h2 : ∀ c ∈ ws2, isWs c = true)
    (c : Char) (rest : Name) (hp : joinWith (n :: ns) seps = c :: rest) (hc : isWs c = false)
    (d : Char) (init : Name) (hq : joinWith (n :: ns) seps = init ++ [d]) (hd : isWs d = false)
    (t : Name) (ht : t = [] ∨ IsSep t) :
    tokenize (ws1 ++ (joinWith (n :: ns) seps ++ t) ++ ws2) = n :: ns := by
  obtain ⟨tl, htl, hlast, hgo⟩ := go_closing ht
  obtain ⟨e, he, hlast'⟩ : ∃ e, isWs e = false ∧ (joinWith (n :: ns) seps ++ t).getLast? = some e := by
    rw [List.getLast?_append, hq, List.getLast?_concat]
    cases ht' : t.getLast? with
    | none => exact ⟨d, hd, rfl⟩
    | some y => exact ⟨y, hlast y ht', rfl⟩
  obtain ⟨init', hq'⟩ := List.getLast?_eq_some_iff.mp hlast'
  have hstrip : strip (ws1 ++ (joinWith (n :: ns) seps ++ t) ++ ws2) = joinWith (n :: ns) seps ++ t :=
    strip_around ws1 ws2 _ h1 h2 c (rest ++ t) (by rw [hp]; rfl) hc e init' hq' he
  have hsplit : splitPath (joinWith (n :: ns) seps ++ t) = (n :: ns) ++ tl := by
    rw [splitPath, go_join hall hlen hseps hgo]
    simp
  rw [tokenize, hstrip, hsplit]
  rcases htl with rfl | rfl
  · -- no closing separator: the last name is not empty, so nothing is dropped
    rw [List.append_nil]
    split
    · rename_i heq
      exact absurd rfl (hall [] (List.mem_of_getLast? heq)).1
    · rfl
  · -- the empty token after the closing separator is dropped
    rw [List.getLast?_concat, List.dropLast_concat]

/-- **C10 (a printed path, as typed).** The names `ls` prints on the way to the node at index path `idx`
(`walk`), under the premises of `C10_roundtrip` and `C10_tokenize`, joined by `/`, `\` or `\\`, with any
blanks around and with or without a closing separator, resolve to exactly that node. -/
theorem C10_printed_path (akai : Bool) (root : Node) (idx : List Nat) (n : Name) (ns seps : List Name)
    (hw : walk root idx = some (n :: ns)) (hdist : DistinctAlong akai root idx)
    (hall : ∀ x ∈ n :: ns, x ≠ [] ∧ NoSep x) (hlen : seps.length = ns.length) (hseps : ∀ s ∈ seps, IsSep s)
    (ws1 ws2 : Name) (h1 : ∀ c ∈ ws1, isWs c = true) (h2 : ∀ c ∈ ws2, isWs c = true)
    (c : Char) (rest : Name) (hp : joinWith (n :: ns) seps = c :: rest) (hc : isWs c = false)
    (d : Char) (init : Name) (hq : joinWith (n :: ns) seps = init ++ [d]) (hd : isWs d = false)
    (t : Name) (ht : t = [] ∨ IsSep t) :
    lookupIdx akai root (tokenize (ws1 ++ (joinWith (n :: ns) seps ++ t) ++ ws2))
      (tokenize (ws1 ++ (joinWith (n :: ns) seps ++ t) ++ ws2)) 0 [] = .ok idx := by
  rw [C10_tokenize n ns seps hall hlen hseps ws1 ws2 h1 h2 c rest hp hc d init hq hd t ht]
  have := C10_roundtrip akai idx root (n :: ns) (n :: ns) 0 [] hw hdist
  simpa using this

/-- non-vacuity: two names, a double backslash, a closing slash, blanks around. -/
example : tokenize "  A:\\\\VOL 1/ ".toList = ["A:".toList, "VOL 1".toList] := by decide +kernel

end Smpl.Props.C10
