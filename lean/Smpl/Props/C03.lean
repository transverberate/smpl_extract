/-
C03 — CDDA tracks tile the bin file exactly at the cue sheet's index positions.
-/
import Smpl.Model.Cdda
import Smpl.Props.C12I

namespace Smpl.Props.C03
open Smpl Smpl.Cue Smpl.Cdda Smpl.Transcode

def AllIndexed (ts : List Track) : Prop := ∀ t ∈ ts, t.indices ≠ []

def firstFrame (t : Track) : Nat :=
  match t.indices with
  | ix :: _ => msf ix
  | [] => 0

/-- the windows the property describes: a track runs from its first index to the next track's first
index; the last one to the end of the bin. -/
def specWindows (binLen : Nat) : Track → Nat → List Track → List Window
  | cur, i, [] =>
    [⟨titleOf cur i, BYTES_PER_FRAME * firstFrame cur,
      (binLen : Int) - BYTES_PER_FRAME * firstFrame cur,
      SAMPLES_PER_FRAME * (((binLen : Int) - BYTES_PER_FRAME * firstFrame cur) / BYTES_PER_FRAME)⟩]
  | cur, i, nxt :: rest =>
    ⟨titleOf cur i, BYTES_PER_FRAME * firstFrame cur,
      BYTES_PER_FRAME * ((firstFrame nxt : Int) - firstFrame cur),
      SAMPLES_PER_FRAME * ((firstFrame nxt : Int) - firstFrame cur)⟩ :: specWindows binLen nxt (i + 1) rest

/-- **C03 (windows).** For any number of tracks that all carry an INDEX line, any index values and any
bin length, the walk produces exactly one window per track: from the track's first index, sector
`(60·m + s)·75 + f` of 2352 bytes, up to the next track's first index; the last to the end. -/
theorem C03_walk (binLen : Nat) (cur : Track) (i : Nat) (rest : List Track)
    (hc : cur.indices ≠ []) (hr : AllIndexed rest) :
    walk binLen cur i rest = specWindows binLen cur i rest := by
  induction rest generalizing cur i with
  | nil =>
    obtain ⟨ix, ixs, hci⟩ := List.exists_cons_of_ne_nil hc
    simp [walk, specWindows, firstFrame, hci]
  | cons nxt rest ih =>
    have hn := hr nxt (List.mem_cons_self ..)
    obtain ⟨ix, ixs, hci⟩ := List.exists_cons_of_ne_nil hc
    obtain ⟨jx, jxs, hni⟩ := List.exists_cons_of_ne_nil hn
    simp only [walk, specWindows, firstFrame, hci, hni]
    rw [ih nxt (i + 1) hn fun t ht => hr t (List.mem_cons_of_mem _ ht)]

theorem C03_windows (cue : CueFile) (binLen : Nat) (t : Track) (ts : List Track)
    (haudio : cue.tracks.filter isAudio = t :: ts) (hidx : AllIndexed (t :: ts)) :
    windows cue binLen = specWindows binLen t 0 ts := by
  unfold windows
  rw [haudio]
  exact C03_walk binLen t 0 ts (hidx t (List.mem_cons_self ..))
    (fun x hx => hidx x (List.mem_cons_of_mem _ hx))

/-- each window starts where the previous one ends; the last ends at `stop`. -/
def Tiles : List Window → Int → Int → Prop
  | [], start, stop => start = stop
  | w :: ws, start, stop => w.offset = start ∧ Tiles ws (start + w.size) stop

/-- **C03 (tiling).** The windows tile the bin from the first track's first index to the end of the
file: no gap and no overlap. -/
theorem C03_tiling (binLen : Nat) (cur : Track) (i : Nat) (rest : List Track) :
    Tiles (specWindows binLen cur i rest) (BYTES_PER_FRAME * firstFrame cur) binLen := by
  induction rest generalizing cur i with
  | nil => exact ⟨rfl, (Int.add_comm ..).trans (Int.sub_add_cancel ..)⟩
  | cons nxt rest ih =>
    simp only [specWindows, Tiles, true_and]
    rw [← Int.mul_add, Int.add_comm, Int.sub_add_cancel]
    exact ih nxt (i + 1)

/-- with strictly increasing first indices every window before the last is a positive whole number
of 2352-byte sectors (hence of 4-byte frames). -/
theorem C03_sizes (binLen : Nat) (cur : Track) (i : Nat) (nxt : Track) (rest : List Track)
    (h : firstFrame cur < firstFrame nxt) :
    ∃ w ws, specWindows binLen cur i (nxt :: rest) = w :: ws ∧ 0 < w.size ∧ w.size % 4 = 0 := by
  refine ⟨_, _, rfl, ?_, ?_⟩
  · exact Int.mul_pos (by decide) (Int.sub_pos_of_lt (Int.ofNat_lt.mpr h))
  · exact Int.emod_eq_zero_of_dvd (Int.dvd_trans ⟨588, rfl⟩ (Int.dvd_mul_right ..))

/-- the passthrough yields exactly the whole frames of the data, for every block size that is a
positive multiple of the frame size. -/
theorem passLoop_flatten (frame nf : Nat) (hf : 0 < frame) (hnf : 0 < nf) (fuel : Nat)
    (data : List Byte) (hfuel : data.length < fuel) :
    (passLoop frame (nf * frame) fuel data).flatten = (wholeFrames frame data).map some :=
  Smpl.Props.C12.passLoop_single frame nf hf hnf fuel data hfuel

/-- **C03 (each track).** A CDDA track (one interleaved 16-bit stereo little-endian stream, the
destination's encoding) is transcoded to exactly the whole 4-byte frames of its window, only a final
partial frame being dropped, for every internal buffer size and either host byte order. -/
theorem C03_track_pcm (host : Bool) (B : Nat) (data : List Byte) :
    let enc : Enc := ⟨false, 2, 2, true⟩
    ∃ blocks, transcode host B enc [⟨enc, data⟩] = .ok blocks ∧
      blocks.flatten = (wholeFrames 4 data).map some :=
  ⟨_, Smpl.Props.C12.transcode_pass rfl rfl,
    passLoop_flatten 4 _ (by decide) (Smpl.Props.C12.numFrames_pos ..) _ data (Nat.lt_succ_self _)⟩

-- non-vacuity: two indexed audio tracks
example : windows ⟨"a.bin".toList,
    [⟨1, "AUDIO".toList, none, [⟨1, 0, 0, 0⟩], []⟩, ⟨2, "audio".toList, some "B".toList, [⟨0, 0, 2, 0⟩, ⟨1, 0, 2, 33⟩], []⟩]⟩ 400000
    = [⟨"Untitled Track 1".toList, 0, 352800, 88200⟩, ⟨"B".toList, 352800, 47200, 11760⟩] := by decide +kernel

end Smpl.Props.C03
