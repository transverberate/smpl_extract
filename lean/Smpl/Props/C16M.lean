/-
C16 for what an opened image object keeps between operations: the children of every directory level
it has realised, computed once with the naming routines installed at that moment, and the cursor of
every sample data stream.
-/
import Smpl.Gen.Routines

namespace Smpl.Props.C16

inductive Act where
  | ls
  | export
deriving DecidableEq, Repr

/-- the naming routines the action installs on the image before it touches any level
(regenerated from `smpl_extract/actions.py` on every run). -/
def routinesOf : Act → List (String × String)
  | .ls => Smpl.Gen.Routines.lsRoutines
  | .export => Smpl.Gen.Routines.exportRoutines

/-- **Tie obligation.** Both actions install the same routines, so a level memoised by one of them
carries the names the other one would have computed. -/
theorem routines_same : routinesOf .ls = routinesOf .export := rfl

/-- `export` merges stereo pairs with exactly one sample routine. -/
theorem sample_routines : Smpl.Gen.Routines.exportSampleRoutines = [("combine_stereo", "method:combine_stereo_routine")] :=
  rfl

section Memo
variable {K V R : Type} [DecidableEq K]

/-- `Traversable._children`, `Volume._files`, …: the memo table of an image object. -/
structure Obj (K V : Type) where
  memo : List (K × V)

def children (realise : R → K → V) (o : Obj K V) (r : R) (k : K) : V × Obj K V :=
  match o.memo.lookup k with
  | some v => (v, o)
  | none => (realise r k, ⟨(k, realise r k) :: o.memo⟩)

/-- one operation: the levels it touches, in order, under its routines. -/
def runOp (realise : R → K → V) (o : Obj K V) (r : R) : List K → List V × Obj K V
  | [] => ([], o)
  | k :: ks =>
    let (v, o1) := children realise o r k
    let (vs, o2) := runOp realise o1 r ks
    (v :: vs, o2)

def runAll (realise : R → K → V) (o : Obj K V) : List (R × List K) → List (List V)
  | [] => []
  | (r, ks) :: rest =>
    let (vs, o1) := runOp realise o r ks
    vs :: runAll realise o1 rest

def Inv (realise : R → K → V) (r : R) (o : Obj K V) : Prop :=
  ∀ k v, o.memo.lookup k = some v → v = realise r k

theorem children_spec {realise : R → K → V} {r : R} {o : Obj K V} (k : K) (h : Inv realise r o) :
    (children realise o r k).1 = realise r k ∧ Inv realise r (children realise o r k).2 := by
  unfold children
  cases hl : o.memo.lookup k with
  | some v => exact ⟨h k v hl, h⟩
  | none =>
    refine ⟨rfl, fun k' v' hk' => ?_⟩
    rw [List.lookup_cons] at hk'
    split at hk'
    · next e => rw [← Option.some.inj hk', eq_of_beq e]
    · exact h k' v' hk'

theorem runOp_spec {realise : R → K → V} {r : R} (ks : List K) {o : Obj K V} (h : Inv realise r o) :
    (runOp realise o r ks).1 = ks.map (realise r) ∧ Inv realise r (runOp realise o r ks).2 := by
  induction ks generalizing o with
  | nil => exact ⟨rfl, h⟩
  | cons k ks ih =>
    obtain ⟨h1, h2⟩ := children_spec k h
    obtain ⟨h3, h4⟩ := ih h2
    simp only [runOp, List.map_cons]
    exact ⟨by rw [h1, h3], h4⟩

/-- **C16 (memoised levels).** If every operation of a history installs the same routines `r`, each
operation answers what a fresh object gives, `realise r` of the levels it touches, whatever was
listed or exported before. -/
theorem C16_memo (realise : R → K → V) (r : R) : ∀ (hist : List (R × List K)) (o : Obj K V),
    Inv realise r o → (∀ op ∈ hist, op.1 = r) →
    runAll realise o hist = hist.map fun op => op.2.map (realise r) := by
  intro hist
  induction hist with
  | nil => intro o _ _; rfl
  | cons op rest ih =>
    intro o h hr
    obtain ⟨r', ks⟩ := op
    have e : r' = r := hr (r', ks) (by simp)
    subst e
    obtain ⟨h1, h2⟩ := runOp_spec ks h
    simp only [runAll, List.map_cons]
    rw [h1, ih _ h2 (fun op hop => hr op (by simp [hop]))]

theorem inv_fresh {realise : R → K → V} {r : R} : Inv realise r (⟨[]⟩ : Obj K V) := by
  intro k v h; simp at h

end Memo

/-- **C16 for the CLI's two actions.** `ls` and `export` install the same routines (`routines_same`),
so any history of them on one image object answers as fresh objects would. -/
theorem C16_actions {K V : Type} [DecidableEq K] (realise : List (String × String) → K → V)
    (hist : List (Act × List K)) :
    runAll realise (⟨[]⟩ : Obj K V) (hist.map fun op => (routinesOf op.1, op.2))
      = hist.map fun op => op.2.map (realise (routinesOf op.1)) := by
  have hsame : ∀ a : Act, routinesOf a = routinesOf .export := by
    intro a; cases a
    · exact routines_same
    · rfl
  rw [C16_memo realise (routinesOf .export) _ _ inv_fresh]
  · rw [List.map_map]
    apply List.map_congr_left
    intro op _
    simp only [Function.comp, hsame op.1]
  · intro op hop
    rw [List.mem_map] at hop
    obtain ⟨a, _, rfl⟩ := hop
    exact hsame a.1

/-- the hypothesis matters: had an action installed other routines, a level memoised by it would be
served to the next action with the wrong names. -/
example :
    runAll (fun (r : Bool) (_ : Nat) => r) (⟨[]⟩ : Obj Nat Bool) [(false, [0]), (true, [0])]
      ≠ [(false, [0]), (true, [0])].map fun op => op.2.map ((fun (r : Bool) (_ : Nat) => r) op.1) := by
  decide +kernel

structure Cur where
  content : List Nat
  pos : Nat

def Cur.readAll (c : Cur) : List Nat × Cur := (c.content.drop c.pos, { c with pos := c.content.length })
def Cur.rewind (c : Cur) : Cur := { c with pos := 0 }

/-- **C16 (data streams).** The transcoder rewinds a stream before reading it (the `fix:` of D10), so
what an export reads does not depend on where earlier operations left the cursor: a second export
reads the same bytes as the first. -/
theorem C16_rewind_read (c : Cur) : c.rewind.readAll.1 = c.content := by
  simp [Cur.rewind, Cur.readAll]

theorem C16_second_export (c : Cur) : (c.rewind.readAll.2).rewind.readAll.1 = c.rewind.readAll.1 := by
  simp [Cur.rewind, Cur.readAll]

/-- without the rewind the second read is empty (D10). -/
example : (({ content := [1, 2, 3], pos := 0 } : Cur).readAll.2).readAll.1 = [] := by decide

end Smpl.Props.C16
