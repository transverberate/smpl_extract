/-
C02 — Roland S-7xx export is byte-exact for every cluster chain and loop mode.
`enc ws` is the little-endian byte image of the 16-bit words a sampler wrote: the clusters of a sample's
chain (in chain order, after `cluster_top`) hold `enc ws` followed by padding.
-/
import Smpl.Model.Roland
import Smpl.Lemmas.ShortRead
import Smpl.Lemmas.RdRoland

namespace Smpl.Props.C02
open Smpl Smpl.Roland

def enc : List Nat → Bytes
  | [] => []
  | w :: ws => (w % 256) :: (w / 256) :: enc ws

theorem enc_length (ws : List Nat) : (enc ws).length = 2 * ws.length := by
  induction ws with
  | nil => rfl
  | cons _ ws ih => exact congrArg (· + 2) ih

theorem enc_append (a b : List Nat) : enc (a ++ b) = enc a ++ enc b := by
  induction a with
  | nil => rfl
  | cons w ws ih => simp only [List.cons_append, enc, ih]

theorem enc_drop (ws : List Nat) (k : Nat) : (enc ws).drop (2 * k) = enc (ws.drop k) := by
  induction k generalizing ws with
  | zero => rfl
  | succ k ih => cases ws with
    | nil => rfl
    | cons _ ws => exact ih ws

theorem enc_take (ws : List Nat) (k : Nat) : (enc ws).take (2 * k) = enc (ws.take k) := by
  induction k generalizing ws with
  | zero => rfl
  | succ k ih => cases ws with
    | nil => rfl
    | cons w ws => exact congrArg (w % 256 :: w / 256 :: ·) (ih ws)

theorem reverseWords_snoc (x : Bytes) (a b : Nat) (h : x.length % 2 = 0) :
    reverseWords (x ++ [a, b]) = a :: b :: reverseWords x :=
  Smpl.ShortRead.reverseWords_append x [a, b] h

theorem reverseWords_enc (ws : List Nat) : reverseWords (enc ws) = enc ws.reverse := by
  induction ws with
  | nil => rfl
  | cons w ws ih => simp [enc, Smpl.ShortRead.reverseWords, ih, enc_append]

/-- reversal is word-wise: the k-th word of the output is the k-th word from the end. -/
theorem C02_reverse_words (ws : List Nat) : words16 (reverseWords (enc ws)) = words16 (enc ws.reverse) := by
  rw [reverseWords_enc]

theorem words16_enc (ws : List Nat) (h : ∀ w ∈ ws, w < 65536) : words16 (enc ws) = ws := by
  induction ws with
  | nil => rfl
  | cons w ws ih =>
    rw [enc, words16_eq, Smpl.Akai.words16_cons, ← words16_eq, ih fun x hx => h x (List.mem_cons_of_mem _ hx)]

theorem reverseWords_involutive (ws : List Nat) : reverseWords (reverseWords (enc ws)) = enc ws := by
  rw [reverseWords_enc, reverseWords_enc, List.reverse_reverse]

def wordWindow (ws : List Nat) (start n : Nat) (rev : Bool) : List Nat :=
  let w := (ws.drop start).take n
  if rev then w.reverse else w

/-- **C02 (window, byte-exact).** Whatever the padding after the written words, a window inside them
is exported as exactly those words (reversed for the reverse modes). -/
theorem C02_window (ws : List Nat) (pad : Bytes) (start n : Nat) (rev : Bool)
    (hn : 0 < n) (hfit : start + n ≤ ws.length) :
    windowOf (enc ws ++ pad) (start : Int) (n : Int) rev = some (enc (wordWindow ws start n rev)) := by
  have hs : start ≤ ws.length := Nat.le_trans (Nat.le_add_right start n) hfit
  have hk : n ≤ (ws.drop start).length := by rw [List.length_drop]; exact Nat.le_sub_of_add_le' hfit
  have hlen : ((ws.drop start).take n).length = n := by rw [List.length_take, Nat.min_eq_left hk]
  have hw : ((enc ws ++ pad).drop (2 * start)).take (2 * n) = enc ((ws.drop start).take n) := by
    rw [List.drop_append_of_le_length (by rw [enc_length]; exact Nat.mul_le_mul_left 2 hs), enc_drop,
      List.take_append_of_le_length (by rw [enc_length]; exact Nat.mul_le_mul_left 2 hk), enc_take]
  unfold windowOf wordWindow
  have hn' : ¬ ((n : Int) ≤ 0) := Int.not_le.mpr (Int.natCast_pos.mpr hn)
  simp only [hn', if_false, Int.toNat_natCast, hw]
  cases rev with
  | false => simp
  | true => simp [enc_length, hlen, reverseWords_enc]

/-- an empty or negative window exports no audio (and does not fail). -/
theorem C02_window_empty (content : Bytes) (start n : Int) (rev : Bool) (hn : n ≤ 0) :
    windowOf content start n rev = some [] := by
  unfold windowOf; simp [hn]

/-- **C02 (loop mode → addressed window).** Modes 1 and 3 end at the release-loop end, all other
modes at the sustain-loop end; exactly modes 5 and 6 are reversed; the first word is the start point. -/
theorem C02_mode_window (mode : Nat) (pts : List Nat) (hm : mode ≤ 6) :
    sampleWindow mode pts =
      ((address (pts.getD 0 0) : Int),
       (if mode = 1 ∨ mode = 3 then (address (pts.getD 4 0) : Int) else (address (pts.getD 2 0) : Int))
          - (address (pts.getD 0 0) : Int) + 1,
       decide (mode = 5 ∨ mode = 6)) := by
  simp only [sampleWindow, hm, if_true, Bool.decide_or]

/-- the address is the raw point without its low "fine" byte. -/
theorem C02_address (a f : Nat) (hf : f < 256) : address (a * 256 + f) = a ∧ fine (a * 256 + f) = f := by
  unfold address fine
  rw [Nat.mul_comm, Nat.mul_add_div (by decide), Nat.mul_add_mod, Nat.div_eq_of_lt hf, Nat.mod_eq_of_lt hf]
  exact ⟨rfl, rfl⟩

/-- **C02 (chain order).** The content is the concatenation of the clusters in *chain* order, for
every order of the cluster numbers on disc. -/
theorem C02_chain_content (img : Img) (cl : List Nat) (chunks : List Bytes)
    (hlen : chunks.length = cl.length)
    (hheld : ∀ k (hk : k < cl.length), clusterData img cl[k] = chunks[k]'(by omega)) :
    chainContent img cl = chunks.flatten := by
  have : cl.map (clusterData img) = chunks :=
    List.ext_getElem (by rw [List.length_map, hlen]) fun k h1 _ => by
      rw [List.getElem_map]; exact hheld k (by simpa using h1)
  rw [chainContent, List.flatMap_def, this]

/-- a cluster that lies wholly inside a list-backed image is read as exactly its 9216 bytes. -/
theorem C02_cluster_read (b : Bytes) (c : Nat) (hin : DATA_FAT_OFF + (c + 1) * CLUSTER ≤ b.length) :
    clusterData (Img.ofBytes b) c = (b.drop (DATA_FAT_OFF + c * CLUSTER)).take CLUSTER :=
  clusterData_ofBytes b c

/-- when every cluster of the chain is wholly in the file, the block-wise reads of the model are
the plain window of the chain content. -/
theorem sampleData_full (img : Img) (s : SampleNode)
    (hfull : ∀ c ∈ s.clusters, (clusterData img c).length = CLUSTER)
    (start n : Nat) (rev : Bool)
    (hwin : sampleWindow s.rec_.loopMode s.rec_.points = ((start : Int), (n : Int), rev)) :
    sampleData img s = windowOf (chainContent img s.clusters) (start : Int) (n : Int) rev := by
  have hh : chainHoley img s.clusters = ⟨chainContent img s.clusters, []⟩ :=
    Smpl.ShortRead.ofPieces_map_full CLUSTER s.clusters hfull
  have hc : (Smpl.ShortRead.Holey.mk (chainContent img s.clusters) []).complete = true := rfl
  simp only [sampleData, windowOf, hwin, hh, Smpl.ShortRead.readForward_complete hc,
    Smpl.ShortRead.readReversed_complete hc, Int.toNat_natCast]
  -- what is left: the two sides say differently that a reversed window ends inside the content
  by_cases hn : (n : Int) ≤ 0
  · rw [if_pos hn, if_pos hn]
  · have hfit : (((chainContent img s.clusters).drop (2 * start)).take (2 * n)).length = 2 * n
        ↔ 2 * (start + n) ≤ (chainContent img s.clusters).length := by
      rw [List.length_take, List.length_drop]; omega
    simp only [hfit]

/-- **C02 (end to end).** A sample whose chain clusters are all in the file and hold the written
words plus padding exports exactly the window its loop mode addresses. -/
theorem C02_sample (img : Img) (s : SampleNode) (ws : List Nat) (pad : Bytes)
    (hfull : ∀ c ∈ s.clusters, (clusterData img c).length = CLUSTER)
    (hcontent : chainContent img s.clusters = enc ws ++ pad)
    (start n : Nat) (rev : Bool)
    (hwin : sampleWindow s.rec_.loopMode s.rec_.points = ((start : Int), (n : Int), rev))
    (hn : 0 < n) (hfit : start + n ≤ ws.length) :
    sampleData img s = some (enc (wordWindow ws start n rev)) := by
  rw [sampleData_full img s hfull start n rev hwin, hcontent]
  exact C02_window ws pad start n rev hn hfit

/-- **C02 (the chain is the FAT's).** `fileClusters` returns the link-following path from the
entry, minus its first `top` clusters. -/
theorem C02_file_clusters (fat : Fat) (entry top : Nat) (p : List Nat)
    (h : Smpl.Alloc.getPath fat.links FAT_N entry = .ok p) :
    fileClusters fat entry top = .ok (p.drop top) := by
  unfold fileClusters; rw [h]

/-- premises satisfiable: three words, window of two from word 1, reversed. -/
example : windowOf (enc [0x1234, 0xabcd, 0x00ff] ++ [9, 9, 9, 9]) 1 2 true = some [0xff, 0x00, 0xcd, 0xab] := by
  decide

example : sampleWindow 5 [0x100, 0, 0x300, 0, 0x900] = (1, 3, true) := by decide
example : sampleWindow 3 [0x100, 0, 0x300, 0, 0x900] = (1, 9, false) := by decide

end Smpl.Props.C02
