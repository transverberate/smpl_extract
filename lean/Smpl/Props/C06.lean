/-
C06 — Output paths are unique, file-system safe and confined to the destination.
-/
import Smpl.Model.Names
import Smpl.Lemmas.Dedupe
import Smpl.Lemmas.Trim

namespace Smpl.Props.C06
open Smpl Smpl.Names

theorem expDirTail_cases (isFile : Bool) (e : Name) :
    expDirTail isFile e = e ∨ expDirTail isFile e = e ++ ['0'] := by
  unfold expDirTail
  split
  · exact .inl rfl
  · split
    · split
      · exact .inr rfl
      · exact .inl rfl
    · exact .inl rfl

/-- an export name is never empty and always starts with a word character — so a path component is
never empty, never `.`/`..`, never starts with a separator or a dot. -/
theorem C06_export_head (name : Name) (isFile : Bool) :
    ∃ c rest, makeExportName name isFile = c :: rest ∧ isWord c = true := by
  unfold makeExportName
  generalize expEnding (expBase name) = e1
  obtain ⟨c, r, he, hw⟩ : ∃ c r, expWordHead (expNonEmpty e1) = c :: r ∧ isWord c = true := by
    cases e1 with
    | nil => exact ⟨'0', [], rfl, by decide⟩
    | cons a as =>
      by_cases hw : isWord a = true
      · exact ⟨a, as, by simp [expNonEmpty, expWordHead, hw], hw⟩
      · exact ⟨'0', a :: as, by simp [expNonEmpty, expWordHead, hw], by decide⟩
  rw [he]
  rcases expDirTail_cases isFile (c :: r) with h | h <;> rw [h]
  · exact ⟨c, r, rfl, hw⟩
  · exact ⟨c, r ++ ['0'], rfl, hw⟩

/-- **No two siblings get the same name.** Whatever the candidate names (duplicates, names equal after
sanitising, collisions with a generated `(n)` suffix), the assigned names are pairwise distinct, one
per sibling. -/
theorem C06_unique (cands : List Name) (res : List Name) (h : dedupe cands = .ok res) :
    res.Nodup ∧ res.length = cands.length :=
  dedupe_nodup cands res h

/-- premises satisfiable: two groups competing for `A (2)`. -/
example : (match dedupe ["A".toList, "A".toList, "A (2)".toList, "A (2)".toList] with
    | .ok r => r == ["A".toList, "A (3)".toList, "A (2)".toList, "A (2) (2)".toList]
    | .error _ => false) = true := by decide +kernel

theorem subRuns_keep (keep : Char → Bool) (hsp : keep ' ' = true) (s : Name) :
    ∀ c ∈ subRuns keep s, keep c = true := by
  fun_induction subRuns keep s with
  | case1 => exact fun _ h => absurd h List.not_mem_nil
  | case2 c cs hk ih => exact List.forall_mem_cons.mpr ⟨hk, ih⟩
  | case3 c cs hk ih => exact List.forall_mem_cons.mpr ⟨hsp, ih⟩

theorem mem_dropDot {c : Char} {r : Name} (h : c ∈ dropDot r) : c ∈ r := by
  unfold dropDot at h
  split at h
  · exact List.mem_cons_of_mem _ ((List.dropWhile_sublist _).mem h)
  · exact h

theorem mem_safeEnding {c : Char} {s : Name} (h : c ∈ safeEnding s) : c ∈ s := by
  unfold safeEnding at h
  simp only at h
  split at h
  · exact (List.take_sublist _ _).mem h
  · have h1 := mem_dropDot (List.mem_reverse.mp h)
    exact List.mem_reverse.mp ((List.dropWhile_sublist _).mem h1)

theorem mem_expEnding {c : Char} {e : Name} (h : c ∈ expEnding e) : c ∈ e := by
  unfold expEnding at h
  split at h
  · exact h
  · exact mem_safeEnding h

theorem mem_expNonEmpty {c : Char} {e : Name} (h : c ∈ expNonEmpty e) : c ∈ e ∨ c = '0' := by
  unfold expNonEmpty at h
  split at h
  · exact .inr (List.mem_singleton.mp h)
  · exact .inl h

theorem mem_expWordHead {c : Char} {e : Name} (h : c ∈ expWordHead e) : c ∈ e ∨ c = '0' := by
  unfold expWordHead at h
  split at h
  · exact .inl h
  · split at h
    · exact .inl h
    · exact (List.mem_cons.mp h).symm

theorem mem_expDirTail {c : Char} {isFile : Bool} {e : Name} (h : c ∈ expDirTail isFile e) :
    c ∈ e ∨ c = '0' := by
  rcases expDirTail_cases isFile e with h' | h' <;> rw [h'] at h
  · exact .inl h
  · simpa using h

/-- **Every character of an export name is a word character, blank, `-`, `.` or `#`** — whatever
the stored name contains (path separators, quotes, control characters, `..`). -/
theorem C06_charset (name : Name) (isFile : Bool) :
    ∀ c ∈ makeExportName name isFile, exportKeep c = true := by
  intro c hc
  -- every step after the first keeps the characters it is given or adds a `0`
  have h3 := (mem_expDirTail hc).elim mem_expWordHead .inr
  have h2 := h3.elim mem_expNonEmpty .inr
  rcases h2.imp_left mem_expEnding with hc | rfl
  · rw [expBase, strip_eq_trim] at hc
    exact subRuns_keep exportKeep (by decide) name c ((trim_sublist _).mem hc)
  · decide

/-- a directory component never ends in `.` or `-`. -/
theorem C06_dir_tail (name : Name) (c : Char)
    (h : (makeExportName name false).getLast? = some c) : c ≠ '.' ∧ c ≠ '-' := by
  unfold makeExportName expDirTail at h
  simp only [Bool.false_eq_true, if_false] at h
  generalize expWordHead (expNonEmpty (expEnding (expBase name))) = e at h
  cases hl : e.getLast? with
  | none => simp only [hl] at h; cases h
  | some l =>
    simp only [hl] at h
    split at h
    · simp at h; subst h; decide
    · rename_i hne
      rw [hl] at h
      cases h
      simpa using hne

end Smpl.Props.C06
