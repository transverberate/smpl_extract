/-
C07 — Roland FAT decoding is complete: a chain that is well formed in the raw FAT is installed whole, also
when other FAT words point into it.
-/
import Smpl.Props.C07R

namespace Smpl.Props.C07
open Smpl Smpl.Alloc

/-- a word that continues a chain. -/
def isLinkWord (v : Nat) : Prop := v ≠ FAT_FREE ∧ v ≠ FAT_RESERVED ∧ v ≠ FAT_ERROR ∧ v < FAT_END

/-- `c` is a chain of the raw FAT. -/
def RawChain (words : Array Nat) : List Nat → Prop
  | [] => False
  | [a] => ∃ v, words[a]? = some v ∧ v ≥ FAT_END
  | a :: b :: rest => (words[a]? = some b ∧ isLinkWord b) ∧ RawChain words (b :: rest)

theorem rawChain_pathOK {words : Array Nat} : ∀ {c}, RawChain words c → PathOK words c
  | [_], h => h
  | _ :: _ :: _, h => ⟨⟨h.1.1, h.1.2.2.2.2⟩, rawChain_pathOK h.2⟩

theorem rawChain_path {words : Array Nat} {c : List Nat} (h : RawChain words c) :
    Path (FStep words) (FEnd words) c :=
  pathOK_iff.mp (rawChain_pathOK h)

theorem rawChain_nodup (words : Array Nat) : ∀ c, RawChain words c → c.Nodup :=
  fun _ h => (rawChain_path h).nodup (fstep_fun words) (fstep_not_end words)

theorem rawChain_length {words : Array Nat} {c : List Nat} (hc : RawChain words c) : c.length ≤ words.size :=
  nodup_length_le (rawChain_nodup words c hc) fun x hx => by
    rcases (rawChain_path hc).end_or_step hx with ⟨_, h, _⟩ | ⟨_, _, h, _⟩ <;> exact lt_of_getElem? h

theorem rawChain_through {words : Array Nat} {h : Nat} {r l1 l2 : List Nat} (hc : RawChain words (h :: r))
    (hp : PathOK words (l1 ++ h :: l2)) : l2 = r :=
  Path.det (fstep_fun words) (fstep_not_end words) (fstep_not_end words)
    (pathOK_iff.mp hp).suffix (rawChain_path hc)

theorem rawChain_not_off {words : Array Nat} {h : Nat} {r l1 l2 : List Nat} (hc : RawChain words (h :: r))
    (hp : Path (FStep words) (fun z => words[z]? = none) (l1 ++ h :: l2)) : False := by
  have hx : ∀ a b, FStep words a b → ¬ words[a]? = none := fun a b h e => by cases h.1.symm.trans e
  have e := Path.det (fstep_fun words) hx (fstep_not_end words) hp.suffix (rawChain_path hc)
  subst e
  obtain ⟨z, hz⟩ : ∃ z, (h :: l2).getLast? = some z := ⟨_, List.getLast?_eq_some_getLast (by simp)⟩
  obtain ⟨v, hv, _⟩ := (rawChain_path hc).last hz
  cases (hp.suffix.last hz).symm.trans hv

theorem rawChain_not_free {words : Array Nat} {h v : Nat} {r : List Nat} (hc : RawChain words (h :: r))
    (hv : words[h]? = some v) : ¬ (v = FAT_RESERVED ∨ v = FAT_FREE) := by
  cases r with
  | nil =>
    obtain ⟨v', hv', hend⟩ := hc
    cases hv.symm.trans hv'
    rintro (rfl | rfl)
    · exact absurd hend (by decide)
    · exact absurd hend (by decide)
  | cons b r =>
    cases hv.symm.trans hc.1.1
    exact fun h => h.elim hc.1.2.2.1 hc.1.2.1

/-- The walk along a raw chain ends by installing the whole chain (or with the error of `addLinks`); `pre`
is what was walked already. The bound on the fuel is not used: a walk that runs out of it is not `.ok`. -/
theorem rolandWalk_chain (words : Array Nat) :
    ∀ (suf pre : List Nat) (fuel : Nat) (st st' : RolSt), suf ≠ [] → RawChain words suf → suf.length ≤ fuel →
      rolandWalk words fuel st pre.reverse (suf.headD 0) = .ok st' →
      addLinks (pre ++ suf) st.links = .ok st'.links := by
  intro suf pre fuel st st' hne hc _ he
  obtain ⟨a, r, rfl⟩ := List.exists_cons_of_ne_nil hne
  obtain ⟨t, ⟨hp, hadd, _⟩ | ⟨_, ⟨hp, _⟩ | ⟨⟨v, hv, h⟩, _⟩⟩⟩ := rolandWalk_spec he
  · cases rawChain_through (l1 := []) hc hp
    simpa using hadd
  · exact (rawChain_not_off (l1 := []) hc hp).elim
  · exact (rawChain_not_free hc hv h).elim

def Installed (words : Array Nat) (c : List Nat) (links : List Link) : Prop :=
  ∀ x ∈ c, ∃ v, words[x]? = some v ∧ links[x]? = some (ofWord v)

theorem addLinks_installs_path (words : Array Nat) :
    ∀ (p : List Nat) (links ls : List Link), PathOK words p → addLinks p links = .ok ls →
      Installed words p ls :=
  fun _ _ _ hp he x hx => (addLinks_pathOK hp he x).resolve_left (fun h => h.1 hx)

theorem addLinks_installed {words : Array Nat} {c p : List Nat} {links ls : List Link}
    (h : Installed words c links) (hp : PathOK words p) (he : addLinks p links = .ok ls) :
    Installed words c ls := fun x hx => by
  rcases addLinks_pathOK hp he x with ⟨_, e⟩ | h'
  · rw [e]; exact h x hx
  · exact h'

theorem rolandWalk_installed {words : Array Nat} {c : List Nat} {fuel : Nat} {st st' : RolSt} {lst : List Nat}
    {sub : Nat} (h : Installed words c st.links) (hr : Path (fun b a => FStep words a b) Any (sub :: lst))
    (he : rolandWalk words fuel st lst sub = .ok st') : Installed words c st'.links :=
  rolandWalk_keeps (Installed words c) addLinks_installed h hr he

theorem rolandWalk_size {words : Array Nat} {fuel : Nat} {st st' : RolSt} {lst : List Nat} {sub : Nat}
    (he : rolandWalk words fuel st lst sub = .ok st') : st'.dirty.size = st.dirty.size := by
  obtain ⟨t, ⟨_, _, e⟩ | ⟨_, ⟨_, e⟩ | ⟨_, _, _, e⟩⟩⟩ := rolandWalk_spec he
  all_goals rw [e, size_mark]

theorem chain_of_installed {words : Array Nat} {links : List Link} {c : List Nat} (hc : RawChain words c)
    (hi : Installed words c links) : Chain links c := by
  refine chain_iff.mpr ⟨fun e => by subst e; exact hc, (rawChain_path hc).imp_mem ?_ ?_⟩
  · intro a ha b hs
    obtain ⟨v, hv, hl⟩ := hi a ha
    cases hv.symm.trans hs.1
    rw [ofWord, if_neg (Nat.not_le.mpr hs.2)] at hl
    exact ⟨_, hl, rfl, rfl⟩
  · rintro a ha ⟨v, hv, hend⟩
    obtain ⟨v', hv', hl⟩ := hi a (List.mem_of_getLast? ha)
    cases hv.symm.trans hv'
    rw [ofWord, if_pos hend] at hl
    exact ⟨_, hl, rfl⟩

/-- A walk that does not raise leaves the head of a raw chain unvisited or installs the chain: a path that
comes by the head goes on along the chain to its end mark (`rawChain_through`). -/
theorem rolandWalk_visit {words : Array Nat} {h : Nat} {r : List Nat} (hc : RawChain words (h :: r))
    {fuel : Nat} {st st' : RolSt} {lst : List Nat} {sub : Nat}
    (hr : Path (fun b a => FStep words a b) Any (sub :: lst))
    (he : rolandWalk words fuel st lst sub = .ok st') :
    (sub ≠ h ∧ st'.dirty[h]? = st.dirty[h]?) ∨ Installed words (h :: r) st'.links := by
  obtain ⟨t, hspec⟩ := rolandWalk_spec he
  by_cases hm : h ∈ sub :: t
  · obtain ⟨l1, l2, e⟩ := List.append_of_mem hm
    rw [e] at hspec
    obtain ⟨hp, hadd, _⟩ | ⟨_, ⟨hp, _⟩ | ⟨⟨v, hv, hf⟩, ht, _⟩⟩ := hspec
    · cases rawChain_through hc hp
      rw [← e] at hp hadd
      exact .inr fun x hx => addLinks_installs_path words _ _ _ (pathOK_of_rev hr hp) hadd x
        (List.mem_append_right _ (e ▸ List.mem_append_right _ hx))
    · exact (rawChain_not_off hc hp).elim
    · subst ht
      cases List.mem_singleton.mp hm
      exact (rawChain_not_free hc hv hf).elim
  · -- only visited clusters are flagged
    refine .inl ⟨fun e => hm (by simp [e]), ?_⟩
    obtain ⟨_, _, e⟩ | ⟨_, ⟨_, e⟩ | ⟨_, ht, _, e⟩⟩ := hspec
    · rw [e]; exact mark_of_not_mem hm
    · rw [e]; exact mark_of_not_mem (fun h' => hm (List.dropLast_subset _ h'))
    · rw [e]; exact mark_of_not_mem (ht ▸ hm)

/-- **Roland FAT decoding is complete for well-formed chains, whatever the rest of the table holds.** If the
raw FAT holds a chain `c` (each cluster's word names the next, the last one's is an end mark) that starts
at an allocatable cluster, and the decoder accepts the table, the decoded table contains `c` as a chain
and `get_path` from its head resolves exactly `c` — also when other words point at the head or into `c`. -/
theorem C07_roland_complete (words : List Nat) (links : List Link) (h : rolandDecode words = .ok links)
    (c : List Nat) (hc : RawChain words.toArray c) (hc0 : 2 ≤ c.headD 0)
    (hc0hi : c.headD 0 < words.length - 9) :
    Chain links c ∧ getPath links words.length (c.headD 0) = .ok c := by
  have hlen : c.length ≤ words.length := rawChain_length hc
  obtain ⟨a, r, rfl⟩ : ∃ a r, c = a :: r := by cases c with
    | nil => exact hc.elim
    | cons a r => exact ⟨a, r, rfl⟩
  simp only [List.headD_cons] at hc0 hc0hi ⊢
  -- the chain is installed as soon as its head has been visited, and once the loop is past the head
  obtain ⟨st, ⟨_, hpast⟩, rfl⟩ := rolandDecode_inv
    (fun i st => (st.dirty[a]?.getD true = true → Installed words.toArray (a :: r) st.links) ∧
      (a < i → Installed words.toArray (a :: r) st.links))
    ⟨fun hd => by
      dsimp only at hd  -- the field of the literal state first: `rw` would unfold `getElem?` to see through it
      rw [Array.getElem?_setIfInBounds_ne (Nat.ne_of_lt hc0),
        Array.getElem?_setIfInBounds_ne (Nat.ne_of_lt (Nat.lt_of_succ_lt hc0)),
        Array.getElem?_replicate, if_pos (Nat.lt_of_lt_of_le hc0hi (Nat.sub_le ..))] at hd
      exact Bool.noConfusion hd, fun h => absurd h (Nat.not_lt.mpr hc0)⟩
    (fun i st ⟨hvis, hpast⟩ hd => ⟨hvis, fun hlt => by
      by_cases e : i = a
      · exact hvis (e ▸ hd)
      · exact hpast (lt_of_lt_succ_of_ne hlt e)⟩)
    (fun i st st' ⟨hvis, hpast⟩ _ he => by
      have keep := fun h => rolandWalk_installed (c := a :: r) (lst := []) h trivial he
      rcases rolandWalk_visit (lst := []) hc trivial he with ⟨hne, e⟩ | hin
      · exact ⟨fun hd => keep (hvis (e ▸ hd)), fun hlt => keep (hpast (lt_of_lt_succ_of_ne hlt hne))⟩
      · exact ⟨fun _ => hin, fun _ => hin⟩) h
  have hchain := chain_of_installed hc
    (hpast (Nat.lt_of_lt_of_le hc0hi (Nat.le_add_of_sub_le (Nat.le_refl _))))
  exact ⟨hchain, C07_getPath_wf _ _ _ hchain hlen⟩

/-- **Roland FAT decoding is complete for well-formed chains**, with the premise that no FAT word points to
the head of `c`: a case of `C07_roland_complete`. -/
theorem C07_roland_wf (words : List Nat) (links : List Link) (h : rolandDecode words = .ok links)
    (c : List Nat) (hc : RawChain words.toArray c) (hc0 : 2 ≤ c.headD 0)
    (hc0hi : c.headD 0 < words.length - 9) (hnopred : ∀ y : Nat, words.toArray[y]? ≠ some (c.headD 0)) :
    Chain links c ∧ getPath links words.length (c.headD 0) = .ok c :=
  C07_roland_complete words links h c hc hc0 hc0hi

/-- premises satisfiable with two words pointing at the head: 3 → 4 → end and 2 → 4, the table accepted. -/
example : let words := [0, 0, 4, 4, 0xFFF8] ++ List.replicate 12 0
    (match rolandDecode words with | .ok _ => true | .error _ => false) = true ∧ RawChain words.toArray [4]
      ∧ words.toArray[2]? = some 4 ∧ words.toArray[3]? = some 4 := by
  refine ⟨by decide +kernel, ⟨0xFFF8, by decide, by decide⟩, by decide, by decide⟩

end Smpl.Props.C07
