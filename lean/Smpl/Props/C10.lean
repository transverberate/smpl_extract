/-
C10 — Every item `ls` shows can be addressed by the names shown; other paths say so.
-/
import Smpl.Model.Names

namespace Smpl.Props.C10
open Smpl Smpl.Names

/-- **Totality.** For every path string whatsoever, the lookup either finds a node or produces the
`was not found` message. -/
theorem C10_total (akai : Bool) (root : Node) (path : Name) :
    (∃ idx, lookupIdx akai root (tokenize path) (tokenize path) 0 [] = .ok idx) ∨
    (∃ msg, lookupIdx akai root (tokenize path) (tokenize path) 0 [] = .error msg) := by
  cases h : lookupIdx akai root (tokenize path) (tokenize path) 0 [] with
  | ok idx => exact Or.inl ⟨idx, rfl⟩
  | error msg => exact Or.inr ⟨msg, rfl⟩

/-- the empty path addresses the image itself. -/
theorem C10_root (akai : Bool) (root : Node) : lookupIdx akai root (tokenize []) (tokenize []) 0 [] = .ok [] := by
  simp [tokenize, splitPath, splitPath.go, strip, stripL, lookupIdx]

/-- **Single level round trip.** In a directory whose children have pairwise distinct normalised
names, the token equal to a child's printed name finds exactly that child. -/
theorem C10_child (akai : Bool) (name : Name) (kids : List Node) (k : Nat) (c : Node)
    (hk : kids[k]? = some c)
    (hdist : ∀ j d, j < k → kids[j]? = some d → sanitizeToken akai d.name ≠ sanitizeToken akai c.name)
    (rest all : List Name) (i : Nat) (acc : List Nat) :
    lookupIdx akai (.node name true kids) (c.name :: rest) all i acc
      = lookupIdx akai c rest all (i + 1) (k :: acc) := by
  have hklt : k < kids.length := (List.getElem?_eq_some_iff.mp hk).1
  have hfind : findChild akai kids c.name = some k := by
    rw [findChild, List.find?_eq_some_iff_getElem]
    refine ⟨by simp only [childMatches, hk, beq_iff_eq], k, by simpa using hklt, by simp, fun j hj => ?_⟩
    simp only [List.getElem_range] at hj ⊢
    unfold childMatches
    cases hd : kids[j]? with
    | none => simp
    | some d => simp [hdist j d hj hd]
  simp only [lookupIdx, Node.isDir, Node.children, if_true, hfind, hk]

/-- the printed names along an index path; a node that is entered is a directory. -/
def walk : Node → List Nat → Option (List Name)
  | _, [] => some []
  | n, k :: ks =>
    if n.isDir then
      match n.children[k]? with
      | some c => (walk c ks).map (c.name :: ·)
      | none => none
    else none

/-- along the path, no earlier sibling has the same normalised name as the node taken. -/
def DistinctAlong (akai : Bool) : Node → List Nat → Prop
  | _, [] => True
  | n, k :: ks =>
    match n.children[k]? with
    | some c =>
      (∀ j d, j < k → n.children[j]? = some d → sanitizeToken akai d.name ≠ sanitizeToken akai c.name) ∧
      DistinctAlong akai c ks
    | none => True

/-- **Round trip at any depth.** If at every level no earlier sibling has the same normalised name (which
the sibling de-duplication provides), the names `ls` shows on the way to the node at index path `idx`
address exactly that node. -/
theorem C10_roundtrip (akai : Bool) :
    ∀ (idx : List Nat) (n : Node) (names all : List Name) (i : Nat) (acc : List Nat),
      walk n idx = some names → DistinctAlong akai n idx →
      lookupIdx akai n names all i acc = .ok (acc.reverse ++ idx) := by
  intro idx n
  fun_induction walk n idx with
  | case1 n =>
    intro names all i acc hw _
    cases hw
    simp [lookupIdx]
  | case2 n k ks hdir c hk ih =>
    intro names all i acc hw hd
    obtain ⟨rest, hwc, rfl⟩ := Option.map_eq_some_iff.mp hw
    obtain ⟨nm, dir, kids⟩ := n
    cases hdir
    simp only [DistinctAlong, Node.children] at hk hd
    simp only [hk] at hd
    rw [C10_child akai nm kids k c hk hd.1 rest all i acc, ih rest all (i + 1) (k :: acc) hwc hd.2]
    simp
  | case3 => intro _ _ _ _ hw; cases hw
  | case4 => intro _ _ _ _ hw; cases hw

/-- premises satisfiable: a two-level tree. -/
example :
    (match lookupIdx false (.node "img".toList true [.node "A".toList true [.node "x".toList false [], .node "y".toList false []]])
      ["A".toList, "y".toList] ["A".toList, "y".toList] 0 [] with
     | .ok idx => idx == [0, 1]
     | .error _ => false) = true := by decide +kernel

end Smpl.Props.C10
