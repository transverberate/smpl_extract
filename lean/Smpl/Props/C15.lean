/-
C15 — On a truncated image every reported file is a well-formed prefix.

Proved is the data path, for every chain, window, cut position and block pattern: what is read, and
the WAV built from it.  Which files are reported at all (the directory path) is validated by the
truncation sweep, not proved.
-/
import Smpl.Model.Akai
import Smpl.Model.Roland
import Smpl.Lemmas.ShortRead
import Smpl.Props.C04
import Smpl.Lemmas.RdRoland

namespace Smpl.Props.C15
open Smpl Smpl.ShortRead

theorem sector_prefix (c : List Nat) (cut k L : Nat) :
    ((c.take cut).drop k).take L <+: (c.drop k).take L := by
  rw [List.drop_take, List.take_take]
  exact List.take_prefix_take_left (Nat.min_le_left _ _)

/-- **C15 (reader, general form).** Pieces that are prefixes of full sectors: the forward block
read of any window of the (size-clipped) chain is a prefix of the read over the complete chain. -/
theorem C15_read_prefix (L : Nat) (ps' ps : List (List Nat))
    (hlen : ps'.length = ps.length)
    (hpre : ∀ j (h1 : j < ps'.length) (h2 : j < ps.length), ps'[j] <+: ps[j])
    (hfull : ∀ p ∈ ps, p.length = L) (size off len : Nat) :
    readForward ((ofPieces L ps').clip size) off len <+: readForward ((ofPieces L ps).clip size) off len := by
  apply readForward_prefix_of_agree
  · rw [ofPieces_full hfull]; rfl
  · intro i hp
    simp only [Holey.clip, List.getElem?_take]
    rw [ofPieces_agree hlen hpre i hp]

/-- **C15 (never bytes from elsewhere).** Whatever is missing, the bytes read are the leading
bytes of the addressed window of the chain, in order. -/
theorem C15_read_is_window_prefix (h : Holey) (off len : Nat) :
    readForward h off len <+: (h.bytes.drop off).take len :=
  List.take_prefix_take_left (coveredFwd_le h off len)

/-- **C15 (complete).** Nothing missing in the chain: the whole window is read (forward), and the
whole word-reversed window (reverse modes). -/
theorem C15_complete_forward (h : Holey) (hc : h.complete = true) (off len : Nat) :
    readForward h off len = (h.bytes.drop off).take len :=
  readForward_complete hc off len

theorem C15_complete_reversed (h : Holey) (hc : h.complete = true) (off len : Nat) :
    readReversed h off len = reverseWords ((h.bytes.drop off).take len) :=
  readReversed_complete hc off len

/-- both chain models list the pieces of a chain as a map over it: the three premises of
`C15_read_prefix` hold as soon as they hold piece by piece. -/
theorem pieces_map {α : Type} (L : Nat) (l : List α) (f' f : α → List Nat)
    (h : ∀ x ∈ l, f' x <+: f x ∧ (f x).length = L) :
    (l.map f').length = (l.map f).length ∧
      (∀ j (h1 : j < (l.map f').length) (h2 : j < (l.map f).length), (l.map f')[j] <+: (l.map f)[j]) ∧
      ∀ p ∈ l.map f, p.length = L := by
  refine ⟨by simp, fun j h1 h2 => ?_, fun p hp => ?_⟩
  · rw [List.getElem_map, List.getElem_map]; exact (h _ (List.getElem_mem _)).1
  · obtain ⟨x, hx, rfl⟩ := List.mem_map.mp hp; exact (h x hx).2

open Smpl.Akai in
/-- **C15 (AKAI sample audio).** `p'` is the partition as seen in an image cut off anywhere (same
decoded tables).  For every chain whose sectors lie inside the complete partition, every file size
and every window, the audio read from the cut image is a prefix of that read from the complete one. -/
theorem C15_akai_audio_prefix (p p' : Part) (cut : Nat) (hcut : p'.content = p.content.take cut)
    (path : List Nat) (hin : ∀ s ∈ path, (s + 1) * SECTOR ≤ p.content.length)
    (size off len : Nat) :
    readForward ((segmentHoley p' path).clip size) off len <+:
      readForward ((segmentHoley p path).clip size) off len := by
  obtain ⟨h1, h2, h3⟩ := pieces_map SECTOR path _ _ fun s hs =>
    ⟨hcut ▸ sector_prefix p.content cut (s * SECTOR) SECTOR, by
      have := hin s hs
      rw [Nat.succ_mul] at this
      rw [List.length_take, List.length_drop, Nat.min_eq_left (Nat.le_sub_of_add_le' this)]⟩
  exact C15_read_prefix SECTOR _ _ h1 h2 h3 size off len

open Smpl.Roland in
theorem cluster_prefix (b : List Nat) (cut c : Nat) :
    clusterData (Img.ofBytes (b.take cut)) c <+: clusterData (Img.ofBytes b) c := by
  rw [clusterData_ofBytes, clusterData_ofBytes]
  exact sector_prefix b cut _ _

open Smpl.Roland in
theorem clusters_cut (b : List Nat) (cut : Nat) (cl : List Nat)
    (hin : ∀ c ∈ cl, DATA_FAT_OFF + (c + 1) * CLUSTER ≤ b.length) :
    ∀ c ∈ cl, clusterData (Img.ofBytes (b.take cut)) c <+: clusterData (Img.ofBytes b) c ∧
      (clusterData (Img.ofBytes b) c).length = CLUSTER := by
  intro c hc
  refine ⟨cluster_prefix b cut c, ?_⟩
  have := hin c hc
  rw [Nat.succ_mul, ← Nat.add_assoc] at this
  rw [clusterData_ofBytes, List.length_take, List.length_drop,
    Nat.min_eq_left (Nat.le_sub_of_add_le' this)]

open Smpl.Roland in
/-- **C15 (Roland sample audio, forward modes).** As `C15_akai_audio_prefix`, for a chain whose
clusters lie inside the complete image and the image cut off at any byte. -/
theorem C15_roland_audio_prefix (b : List Nat) (cut : Nat) (cl : List Nat)
    (hin : ∀ c ∈ cl, DATA_FAT_OFF + (c + 1) * CLUSTER ≤ b.length) (off len : Nat) :
    readForward (chainHoley (Img.ofBytes (b.take cut)) cl) off len <+:
      readForward (chainHoley (Img.ofBytes b) cl) off len := by
  obtain ⟨h1, h2, h3⟩ := pieces_map CLUSTER cl _ _ (clusters_cut b cut cl hin)
  -- clipping at the declared length changes nothing
  have key := C15_read_prefix CLUSTER _ _ h1 h2 h3 (cl.length * CLUSTER) off len
  rwa [clip_of_le (by rw [ofPieces_length, List.length_map]; exact Nat.le_refl _),
    clip_of_le (by rw [ofPieces_length, List.length_map]; exact Nat.le_refl _)] at key

open Smpl.Roland in
/-- **C15 (Roland sample audio, reverse modes).** The same for the reversed read of a window of whole
samples inside the chain: blocks are read from the end of the window, so what survives is the
beginning of the reversed audio. -/
theorem C15_roland_reverse_prefix (b : List Nat) (cut : Nat) (cl : List Nat)
    (hin : ∀ c ∈ cl, DATA_FAT_OFF + (c + 1) * CLUSTER ≤ b.length) (off len : Nat)
    (heven : len % 2 = 0) (hwin : off + len ≤ cl.length * CLUSTER) :
    readReversed (chainHoley (Img.ofBytes (b.take cut)) cl) off len <+:
      readReversed (chainHoley (Img.ofBytes b) cl) off len := by
  obtain ⟨h1, h2, h3⟩ := pieces_map CLUSTER cl _ _ (clusters_cut b cut cl hin)
  exact readReversed_pieces_prefix h1 h2 h3 off len heven (by rwa [List.length_map])

/-- whatever prefix results, the file written around it is a well-formed WAV (C04): the RIFF and
data lengths are computed from the bytes actually written. -/
theorem C15_wav (m : Smpl.Wav.Meta) (pcm bs : List Nat) (h : Smpl.Wav.buildWav m pcm = .ok bs)
    (hbits : m.bits = 16) (hch : 0 < m.channels) (hal : pcm.length % (m.channels * 2) = 0) :
    Smpl.Spec.Riff.wellFormed bs = true :=
  Smpl.Props.C04.C04_wellformed m pcm bs h hbits hch hal

/-- premises satisfiable: a 2-sector chain whose second sector is cut after 1 byte; block = 4096. -/
example : (ofPieces 2 [[1, 2], [3]]).holes = [(3, 4)] ∧ (ofPieces 2 [[1, 2], [3]]).avail 0 3 = true
    ∧ (ofPieces 2 [[1, 2], [3]]).avail 0 4 = false := by decide +kernel

end Smpl.Props.C15
