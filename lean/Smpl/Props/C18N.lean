/-
C18 — note number ↔ note: the round trips that hold for every integer (the sweeps over byte values
are in `Smpl.Props.C18`).
-/
import Smpl.Model.Codec

namespace Smpl.Props.C18
open Smpl.Codec

private theorem scale_table : ∀ k < 12, idxOfScale (scaleOfIdx k) = some k ∧ (scaleOfIdx k).1 < 7 := by
  decide +kernel

private theorem mod12_lt (n : Int) : (n % 12).toNat < 12 :=
  (Int.toNat_lt' (by decide)).mpr (Int.emod_lt_of_pos n (by decide))

/-- note number -> note -> note number is the identity for every integer, so for every byte with
either A0 offset, negative intermediate values included. -/
theorem C18_note_int (n : Int) : toIntA0 (fromIntA0 n) = some n := by
  simp only [toIntA0, fromIntA0, (scale_table _ (mod12_lt n)).1, Int.ofNat_eq_natCast]
  rw [Int.toNat_of_nonneg (Int.emod_nonneg n (by decide)), Int.emod_add_mul_ediv]

theorem fromIntA0_degree (n : Int) : (fromIntA0 n).degree < 7 :=
  (scale_table _ (mod12_lt n)).2

theorem C18_note_akai_byte (b : Int) : toAkaiByte (fromAkaiByte b) = some b := by
  unfold toAkaiByte fromAkaiByte
  rw [C18_note_int]; simp

theorem C18_note_midi_byte (b : Int) : toMidiByte (fromMidiByte b) = some b :=
  C18_note_akai_byte b

end Smpl.Props.C18
