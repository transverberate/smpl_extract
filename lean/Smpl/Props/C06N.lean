/-
C06 — clean names are left alone: they are fixed points of both sanitisers, a list of distinct names
is one of the sibling de-duplication.
-/
import Smpl.Props.C06
import Smpl.Model.AkaiTool

namespace Smpl.Props.C06
open Smpl Smpl.Names

/-- word characters and blanks only, a word character at both ends. -/
structure CleanName (n : Name) : Prop where
  chars : ∀ c ∈ n, isWord c = true ∨ c = ' '
  head  : ∃ c rest, n = c :: rest ∧ isWord c = true
  last  : ∃ c, n.getLast? = some c ∧ isWord c = true

theorem word_not_ws {c : Char} (h : isWord c = true) : isWs c = false := by
  unfold isWord at h
  unfold isWs
  simp only [Bool.or_eq_true, Bool.and_eq_true, decide_eq_true_eq, beq_iff_eq] at h
  simp only [Bool.or_eq_false_iff, Bool.and_eq_false_iff, decide_eq_false_iff_not]
  omega

theorem word_ne {c d : Char} (hc : isWord c = true) (hd : isWord d = false) : c ≠ d := by
  rintro rfl
  rw [hd] at hc; cases hc

def okChar (c : Char) : Prop := isWord c = true ∨ c = ' '

theorem ok_safeKeep {c : Char} (h : okChar c) : safeKeep c = true := by
  rcases h with h | rfl
  · simp [safeKeep, h]
  · decide

theorem ok_exportKeep {c : Char} (h : okChar c) : exportKeep c = true := by
  rcases h with h | rfl
  · simp [exportKeep, h]
  · decide

theorem ok_not_colon {c : Char} (h : okChar c) : (c == ':') = false := by
  rcases h with h | rfl
  · simpa using word_ne h (d := ':') (by decide)
  · decide

theorem ok_not_quote {c : Char} (h : okChar c) : isQuote c = false := by
  rcases h with h | rfl
  · simp [isQuote, word_ne h (d := '\'') (by decide), word_ne h (d := '"') (by decide),
      word_ne h (d := '`') (by decide)]
  · decide

theorem safeReplace_ok : ∀ (n : Name) (prev : Option Char), (∀ c ∈ n, okChar c) → safeReplace prev n = n := by
  intro n
  induction n with
  | nil => intro prev _; unfold safeReplace; rfl
  | cons c cs ih =>
    intro prev h
    have hc := h c (by simp)
    unfold safeReplace
    simp only [ok_safeKeep hc, Bool.not_true, Bool.false_eq_true, if_false, ok_not_colon hc, Bool.false_and]
    rw [ih (some c) (fun x hx => h x (by simp [hx]))]

theorem subRuns_ok : ∀ (n : Name), (∀ c ∈ n, okChar c) → subRuns exportKeep n = n := by
  intro n
  induction n with
  | nil => intro _; unfold subRuns; rfl
  | cons c cs ih =>
    intro h
    unfold subRuns
    simp only [ok_exportKeep (h c (by simp)), if_true]
    rw [ih (fun x hx => h x (by simp [hx]))]

theorem filter_quotes_ok {n : Name} (h : ∀ c ∈ n, okChar c) : n.filter (!isQuote ·) = n := by
  apply List.filter_eq_self.mpr
  intro c hc
  simp [ok_not_quote (h c hc)]

theorem strip_clean (n : Name) (hn : CleanName n) : strip n = n := by
  obtain ⟨c, rest, rfl, hc⟩ := hn.head
  obtain ⟨d, hd, hdw⟩ := hn.last
  rw [strip_eq_trim]
  refine trim_eq_self (fun _ e => ?_) (fun _ e => ?_)
  · cases e; exact word_not_ws hc
  · cases hd.symm.trans e; exact word_not_ws hdw

/-- **a clean name is its own display name.** -/
theorem makeSafeName_clean (n : Name) (hn : CleanName n) : makeSafeName n = n := by
  unfold makeSafeName
  rw [filter_quotes_ok hn.chars, safeReplace_ok n none hn.chars, strip_clean n hn]

/-- **a clean name is its own file / directory name.** -/
theorem makeExportName_clean (n : Name) (hn : CleanName n) (isFile : Bool) : makeExportName n isFile = n := by
  obtain ⟨c, rest, hnc, hc⟩ := hn.head
  obtain ⟨d, hd, hdw⟩ := hn.last
  obtain ⟨r, hr⟩ : ∃ r, n.reverse = d :: r := by
    obtain ⟨init, rfl⟩ := List.getLast?_eq_some_iff.mp hd
    exact ⟨init.reverse, by simp⟩
  have hdot : (d == '.') = false := by simpa using word_ne hdw (d := '.') (by decide)
  have hdash : (d == '-') = false := by simpa using word_ne hdw (d := '-') (by decide)
  have hne : n.isEmpty = false := by rw [hnc]; rfl
  have hbase : expBase n = n := by rw [expBase, subRuns_ok n hn.chars, strip_clean n hn]
  -- read from the end, the name starts with `d`: no blank and no dot to drop
  have hend : expEnding n = n := by
    have hdd : dropDot (d :: r) = d :: r := by rw [dropDot]; rintro _ ⟨rfl, _⟩; cases hdot
    have hrev : (d :: r).reverse = n := by rw [← hr, List.reverse_reverse]
    simp [expEnding, safeEnding, hne, hr, word_not_ws hdw, hdd, hrev]
  have hnon : expNonEmpty n = n := by simp [expNonEmpty, hne]
  have hhead : expWordHead n = n := by rw [hnc]; simp [expWordHead, hc]
  have htail : expDirTail isFile n = n := by cases isFile <;> simp [expDirTail, hd, hdot, hdash]
  rw [makeExportName, hbase, hend, hnon, hhead, htail]

theorem groupBy_go_nodup : ∀ (cs : List Name) (i : Nat) (acc : List (Name × List Nat)),
    (acc.map (·.1) ++ cs).Nodup → groupBy.go i acc cs = acc ++ (cs.zipIdx i).map fun p => (p.1, [p.2]) := by
  intro cs
  induction cs with
  | nil => intro i acc _; simp [groupBy.go]
  | cons c cs ih =>
    intro i acc hnd
    have hany : acc.any (fun x => x.1 == c) = false := by
      rw [List.any_eq_false]
      intro x hx
      have := (List.nodup_append.mp hnd).2.2 x.1 (List.mem_map_of_mem hx) c List.mem_cons_self
      simpa using this
    simp only [groupBy.go, hany, Bool.false_eq_true, if_false]
    rw [ih (i + 1) _ (by simpa [List.append_assoc] using hnd)]
    simp [List.zipIdx_cons, List.append_assoc]

theorem dedupe_loop_singles : ∀ (ps : List (Name × Nat)) (used : List Name) (out : List (Nat × Name)),
    dedupe.loop (ps.map fun p => (p.1, [p.2])) used out = .ok (out ++ ps.map fun p => (p.2, p.1)) := by
  intro ps
  induction ps with
  | nil => intro used out; simp [dedupe.loop]
  | cons p ps ih =>
    intro used out
    simp only [List.map_cons, dedupe.loop, ih, List.append_assoc, List.singleton_append]

/-- **pairwise distinct sibling names are not renamed.** -/
theorem dedupe_nodup_id (cands : List Name) (h : cands.Nodup) : dedupe cands = .ok cands := by
  have hg : groupBy cands = cands.zipIdx.map fun p => (p.1, [p.2]) := by
    simpa [groupBy] using groupBy_go_nodup cands 0 [] (by simpa using h)
  unfold dedupe
  simp only [hg, dedupe_loop_singles, List.nil_append, Except.ok.injEq]
  have hfst : (cands.zipIdx.map fun p => (p.2, p.1)).map (·.1) = List.range cands.length := by
    simp [List.map_map, Function.comp_def, List.range_eq_range']
  rw [← hfst, find?_fst_of_nodup [] (hfst ▸ List.nodup_range)]
  simp [List.map_map, Function.comp_def]

/-- **clean, pairwise distinct sibling names are shown and written as stored**: the listing name and
the file / folder name of every item are its stored name; nothing is replaced, stripped, prefixed or
numbered. -/
theorem C06_clean_names_kept (raw : List (Name × Bool)) (hclean : ∀ x ∈ raw, CleanName x.1)
    (hnd : (raw.map (·.1)).Nodup) :
    Smpl.AkaiTool.assign raw = .ok (raw.map fun x => (x.1, x.1)) := by
  have hs : (raw.map fun (n, _) => makeSafeName n) = raw.map (·.1) :=
    List.map_congr_left fun x hx => makeSafeName_clean x.1 (hclean x hx)
  have he : (raw.map fun (n, f) => makeExportName n f) = raw.map (·.1) :=
    List.map_congr_left fun x hx => makeExportName_clean x.1 (hclean x hx) x.2
  simp only [Smpl.AkaiTool.assign, hs, he, dedupe_nodup_id _ hnd, List.zip_map']

/-- premises satisfiable. -/
example : CleanName "PIANO C3".toList := by
  simp only [String.reduceToList]  -- the literal as a list of characters, decoded once
  exact ⟨by decide +kernel, ⟨_, _, rfl, by decide⟩, ⟨_, rfl, by decide⟩⟩

end Smpl.Props.C06
