/-
C14 — A damaged directory entry affects only that entry.
-/
import Smpl.Model.Akai
import Smpl.Lemmas.Rd

namespace Smpl.Props.C14
open Smpl Smpl.Akai

def setEntry (tbl : Bytes) (k : Nat) (e' : Bytes) : Bytes :=
  tbl.take (k * FILE_ENTRY_BYTES) ++ e' ++ tbl.drop ((k + 1) * FILE_ENTRY_BYTES)

/-- reading inside entry `j ≠ k` is unaffected by replacing entry `k` (with 24 new bytes). -/
theorem rd_setEntry (tbl e' : Bytes) (k j off n : Nat) (he : e'.length = FILE_ENTRY_BYTES)
    (hk : (k + 1) * FILE_ENTRY_BYTES ≤ tbl.length) (hjk : j ≠ k) (hon : off + n ≤ FILE_ENTRY_BYTES) :
    rd (setEntry tbl k e') (j * FILE_ENTRY_BYTES + off) n = rd tbl (j * FILE_ENTRY_BYTES + off) n := by
  simp only [setEntry, FILE_ENTRY_BYTES] at *   -- the entry size as a numeral: what is left for `omega` is linear
  -- the table is its first `k` entries, entry `k`, and the rest; `setEntry` replaces the middle
  have htbl : tbl = tbl.take (k * 24) ++ ((tbl.drop (k * 24)).take 24 ++ tbl.drop ((k + 1) * 24)) := by
    rw [Nat.succ_mul, ← List.drop_drop, List.take_append_drop, List.take_append_drop]
  have hk' : k * 24 + 24 ≤ tbl.length := Nat.succ_mul k 24 ▸ hk
  have h1 : (tbl.take (k * 24)).length = k * 24 := List.length_take_of_le (Nat.le_of_add_right_le hk')
  have h2 : ((tbl.drop (k * 24)).take 24).length = 24 :=
    List.length_take_of_le (by rw [List.length_drop]; exact Nat.le_sub_of_add_le' hk')
  rw [List.append_assoc]
  conv => rhs; rw [htbl]
  refine rd_replace (he.trans h2.symm) ?_
  rw [h1, he]
  omega

/-- **C14 (AKAI, per entry).** Whatever 24 bytes replace entry `k` of a file table, every other entry
parses to exactly what it parsed to before — name, type, size, start sector — because each entry is
read at its own boundary `24·j` (true of the code after the `fix:` of D9; before it, a failed parse
left the cursor inside the damaged entry and every following entry was lost). -/
theorem C14_other_entries (p : Part) (tbl e' : Bytes) (k j : Nat) (he : e'.length = FILE_ENTRY_BYTES)
    (hk : (k + 1) * FILE_ENTRY_BYTES ≤ tbl.length) (hjk : j ≠ k) :
    (match parseEntry p (setEntry tbl k e') (j * FILE_ENTRY_BYTES) with
      | .entry e => some e.name | _ => none) =
    (match parseEntry p tbl (j * FILE_ENTRY_BYTES) with
      | .entry e => some e.name | _ => none) ∧
    uN (setEntry tbl k e') (j * FILE_ENTRY_BYTES + 8) 2 = uN tbl (j * FILE_ENTRY_BYTES + 8) 2 := by
  have r := fun off n h => rd_setEntry tbl e' k j off n he hk hjk h
  have e0 := r 0 12 (by decide)
  have e16 := r 16 1 (by decide)
  have e17 := r 17 3 (by decide)
  have e20 := r 20 2 (by decide)
  have e8 := r 8 2 (by decide)
  simp only [Nat.add_zero] at e0
  constructor
  · unfold parseEntry uN
    simp only [e0, e16, e17, e20]
  · unfold uN; rw [e8]

end Smpl.Props.C14
