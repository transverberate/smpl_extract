/-
C01, the writer's side: the 140-byte sample header, written field by field.
-/
import Smpl.Props.C01S
import Smpl.Lemmas.Rd

namespace Smpl.Props.C01
open Smpl Smpl.Akai

def digit (n : Nat) : Nat → Nat
  | 0 => n % 256
  | 1 => n / 256 % 256
  | 2 => n / 65536 % 256
  | _ => n / 16777216 % 256

structure LoopImg where
  pos : Nat
  fine : Nat
  coarse : Nat
  dur : Nat

structure HdrImg where
  id : Nat
  note : Nat
  nameRaw : Bytes          -- 12 AKAI character codes
  lt : Nat
  cents : Nat
  semi : Nat
  cnt : Nat
  start : Nat
  end_ : Nat
  loops : Nat → LoopImg    -- entries 0..7
  rate : Nat
  fill : Nat → Nat         -- every byte the parser does not look at

def HdrImg.byteAt (h : HdrImg) (i : Nat) : Nat :=
  if i = 0 then h.id
  else if i = 2 then h.note
  else if 3 ≤ i ∧ i < 15 then h.nameRaw.getD (i - 3) 0
  else if i = 19 then h.lt
  else if i = 20 then h.cents
  else if i = 21 then h.semi
  else if 26 ≤ i ∧ i < 30 then digit h.cnt (i - 26)
  else if 30 ≤ i ∧ i < 34 then digit h.start (i - 30)
  else if 34 ≤ i ∧ i < 38 then digit h.end_ (i - 34)
  else if 38 ≤ i ∧ i < 134 then
    let l := h.loops ((i - 38) / 12)
    let r := (i - 38) % 12
    if r < 4 then digit l.pos r else if r < 6 then digit l.fine (r - 4)
    else if r < 10 then digit l.coarse (r - 6) else digit l.dur (r - 10)
  else if 138 ≤ i ∧ i < 140 then digit h.rate (i - 138)
  else h.fill i

def HdrImg.bytes (h : HdrImg) : Bytes := (List.range 140).map h.byteAt

theorem le4 {n : Nat} (h : n < 4294967296) : leVal [digit n 0, digit n 1, digit n 2, digit n 3] = n :=
  leVal_cons_mod (leVal_cons_div (leVal_cons_div (leVal_cons_div (Nat.div_eq_of_lt h).symm)))

theorem le3 {n : Nat} (h : n < 16777216) : leVal [digit n 0, digit n 1, digit n 2] = n :=
  leVal_cons_mod (leVal_cons_div (leVal_cons_div (Nat.div_eq_of_lt h).symm))

theorem le2 {n : Nat} (h : n < 65536) : leVal [digit n 0, digit n 1] = n :=
  leVal_cons_mod (leVal_cons_div (Nat.div_eq_of_lt h).symm)

structure HdrImg.Ok (h : HdrImg) : Prop where
  id : h.id = 1 ∨ h.id = 3
  note : h.note < 256
  name : h.nameRaw.length = 12
  lt : h.lt ≤ 4
  cents : h.cents < 256
  semi : h.semi < 256
  cnt : h.cnt < 4294967296
  start : h.start < 4294967296
  end_ : h.end_ < 4294967296
  loops : ∀ e, e < 8 → (h.loops e).pos < 4294967296 ∧ (h.loops e).coarse < 4294967296 ∧ (h.loops e).dur < 65536
  rate : h.rate < 65536

def LoopImg.byteAt (l : LoopImg) (r : Nat) : Nat :=
  if r < 4 then digit l.pos r else if r < 6 then digit l.fine (r - 4)
  else if r < 10 then digit l.coarse (r - 6) else digit l.dur (r - 10)

theorem HdrImg.byteAt_loops (h : HdrImg) (i : Nat) (h1 : 38 ≤ i) (h2 : i < 134) :
    h.byteAt i = (h.loops ((i - 38) / 12)).byteAt ((i - 38) % 12) := by
  have ne : ∀ k, k < 38 → ¬ i = k := fun k hk e => Nat.not_le.mpr hk (e ▸ h1)
  have out : ∀ a b, b ≤ 38 → ¬ (a ≤ i ∧ i < b) := fun a b hb hi => Nat.not_le.mpr hi.2 (Nat.le_trans hb h1)
  rw [HdrImg.byteAt, if_neg (ne 0 (by decide)), if_neg (ne 2 (by decide)), if_neg (out 3 15 (by decide)),
    if_neg (ne 19 (by decide)), if_neg (ne 20 (by decide)), if_neg (ne 21 (by decide)),
    if_neg (out 26 30 (by decide)), if_neg (out 30 34 (by decide)), if_neg (out 34 38 (by decide)), if_pos ⟨h1, h2⟩]
  rfl

theorem HdrImg.byteAt_loop (h : HdrImg) (e r : Nat) (he : e < 8) (hr : r < 12) :
    h.byteAt (38 + 12 * e + r) = (h.loops e).byteAt r := by
  rw [Nat.add_assoc, h.byteAt_loops _ (Nat.le_add_right ..) (by omega), Nat.add_sub_cancel_left,
    Nat.mul_add_div (by decide), Nat.mul_add_mod, Nat.div_eq_of_lt hr, Nat.mod_eq_of_lt hr, Nat.add_zero]

theorem loop_at (h : HdrImg) (hok : h.Ok) (rest : Bytes) (e : Nat) (he : e < 8) :
    uN (h.bytes ++ rest) (38 + 12 * e) 4 = some (h.loops e).pos ∧
    uN (h.bytes ++ rest) (38 + 12 * e + 6) 4 = some (h.loops e).coarse ∧
    uN (h.bytes ++ rest) (38 + 12 * e + 10) 2 = some (h.loops e).dur := by
  have F : ∀ k n v, k + n ≤ 12 → leVal ((List.range' k n).map (h.loops e).byteAt) = v →
      uN (h.bytes ++ rest) (38 + 12 * e + k) n = some v := fun k n v hk hv =>
    uN_map 140 h.byteAt rest _ n v (by omega) (map_range'_shift fun r _ hr => h.byteAt_loop e r he (Nat.lt_of_lt_of_le hr hk)) hv
  obtain ⟨h1, h2, h3⟩ := hok.loops e he
  exact ⟨F 0 4 _ (by decide) (le4 h1), F 6 4 _ (by decide) (le4 h2), F 10 2 _ (by decide) (le2 h3)⟩

def HdrImg.loopEntries (h : HdrImg) : List LoopEntry :=
  (List.range' 0 8).map fun i => ⟨(h.loops i).pos, (h.loops i).coarse, (h.loops i).dur⟩

theorem parseLoops_hdr (h : HdrImg) (hok : h.Ok) (rest : Bytes) :
    ∀ (k e : Nat), e + k = 8 →
      parseLoops (h.bytes ++ rest) (38 + 12 * e) k
        = some ((List.range' e k).map fun i => ⟨(h.loops i).pos, (h.loops i).coarse, (h.loops i).dur⟩)
  | 0, _, _ => rfl
  | k + 1, e, he => by
    obtain ⟨h1, h2, h3⟩ := loop_at h hok rest e (he ▸ Nat.lt_add_of_pos_right k.succ_pos)
    have := parseLoops_hdr h hok rest k (e + 1) ((Nat.add_right_comm e 1 k).trans he)
    rw [Nat.mul_succ, ← Nat.add_assoc] at this
    rw [parseLoops, h1, h2, h3, this]
    rfl

/-- **C01 (written sample header).** Parsing the 140 bytes of a header image with fields in range,
followed by anything, returns exactly the written values, whatever the bytes the parser does not look
at (`fill`, the loops' fine-length bytes). -/
theorem C01_header_roundtrip (h : HdrImg) (hok : h.Ok) (rest : Bytes) (name : Smpl.Names.Name)
    (hname : akaiStr h.nameRaw = some name) :
    parseSampleHdr (h.bytes ++ rest) = some
      ⟨h.id, h.note, name, h.lt, h.cents, h.semi, h.cnt, h.start, h.end_, h.loopEntries, h.rate⟩ := by
  -- at a fixed offset `rfl` finds the field's bytes by evaluating `byteAt`
  have F : ∀ off n {ds} v, off + n ≤ 140 → (List.range' off n).map h.byteAt = ds → leVal ds = v →
      uN (h.bytes ++ rest) off n = some v := uN_map 140 h.byteAt rest
  have hraw : rd (h.bytes ++ rest) 3 12 = some h.nameRaw :=
    (rd_map 140 h.byteAt rest 3 12 (by decide)).trans (congrArg some (map_getD_range hok.name))
  have hidok : ¬ (h.id ≠ 1 ∧ h.id ≠ 3) := fun ⟨h1, h3⟩ => hok.id.elim h1 h3
  -- the reads first, by `rw`: while they stand, the kernel runs the parser on `h.bytes` to check `simp`'s steps
  rw [parseSampleHdr, hraw, parseLoops_hdr h hok rest 8 0 rfl,
    F 0 1 h.id (by decide) rfl rfl, F 2 1 h.note (by decide) rfl rfl, F 19 1 h.lt (by decide) rfl rfl,
    F 20 1 h.cents (by decide) rfl rfl, F 21 1 h.semi (by decide) rfl rfl,
    F 26 4 _ (by decide) rfl (le4 hok.cnt), F 30 4 _ (by decide) rfl (le4 hok.start),
    F 34 4 _ (by decide) rfl (le4 hok.end_), F 138 2 _ (by decide) rfl (le2 hok.rate)]
  simp only [hname, hidok, Nat.not_lt.mpr hok.lt, bind, Option.bind, pure, if_false, HdrImg.loopEntries]

theorem HdrImg.bytes_length (h : HdrImg) : h.bytes.length = 140 := by simp [HdrImg.bytes]

theorem window_after_header (h : HdrImg) (data : Bytes) (k : Nat) (sz : Int) :
    window (h.bytes ++ data) (SAMPLE_HEADER_BYTES + k) sz = window data k sz := by
  have : (h.bytes ++ data).drop (SAMPLE_HEADER_BYTES + k) = data.drop k := by
    rw [show SAMPLE_HEADER_BYTES = h.bytes.length from h.bytes_length.symm, ← List.drop_drop, List.drop_left]
  rw [window, this, ← window]

/-- **C01 (written sample file, from the raw image).** As `C01_sample_from_image`, where the file
content is a written header image `h` followed by `data`: the entry is realised as the sample with
exactly the header values written and the audio `data[2·start, 2·end)`. -/
theorem C01_written_sample (file : Bytes) (pos letter : Nat) (p : Part) (next : Nat)
    (hp : parsePartition file pos letter = .ok (some (p, next)))
    (c : List Nat) (hc : Smpl.Props.C07.ARawChain (rawSat file pos).toArray c)
    (e : FileEntry) (hstart : c.headD 0 = e.start) (hin : SectorsInside p c)
    (hty : isSampleType e.ftype = true) (programOk : Bytes → Bool)
    (h : HdrImg) (hok : h.Ok) (name : Smpl.Names.Name) (hname : akaiStr h.nameRaw = some name) (data : Bytes)
    (hcontent : (segment p c).take e.size = h.bytes ++ data) :
    realizeFile p e programOk = some ⟨e.name, e.ftype,
      .sample ⟨h.id, h.note, name, h.lt, h.cents, h.semi, h.cnt, h.start, h.end_, h.loopEntries, h.rate⟩
        (window data (2 * h.start) (2 * ((h.end_ : Int) - h.start)))⟩ := by
  have hhdr := C01_header_roundtrip h hok data name hname
  rw [← hcontent] at hhdr
  rw [C01_sample_from_image file pos letter p next hp c hc e hstart hin hty _ programOk hhdr]
  simp only [hcontent, window_after_header]

/-- premises satisfiable: a plausible header image. -/
example : (⟨1, 60, List.replicate 12 10, 2, 0, 206, 100, 5, 90, fun _ => ⟨7, 0, 3, 9999⟩, 44100, fun i => i % 7⟩ : HdrImg).Ok :=
  ⟨Or.inl rfl, by decide, rfl, by decide, by decide, by decide, by decide, by decide, by decide,
   fun _ _ => ⟨by simp, by simp, by simp⟩, by decide⟩

end Smpl.Props.C01
