/-
C09 — Listing and export do not depend on the container the image is wrapped in.
-/
import Smpl.Model.Container

namespace Smpl.Props.C09
open Smpl Smpl.Container

/-! the wrappers, written independently of the model (specification side) -/

/-- one MODE1/2352 raw sector around a 2048-byte block. -/
def wrapSector (id : Nat) (block : Bytes) : Bytes :=
  MDF_SYNC ++ [id / 65536 % 256, id / 256 % 256, id % 256] ++ [0x01] ++ block ++ List.replicate MDF_FOOTER 0

/-- an image given as 2048-byte blocks, delivered as raw sectors. -/
def wrap2352 : Nat → List Bytes → Bytes
  | _, [] => []
  | id, b :: bs => wrapSector id b ++ wrap2352 (id + 1) bs

def le64 (n : Nat) : Bytes := (List.range 8).map fun i => n / 256 ^ i % 256

/-- the 64-byte MDX header: magic, version, copyright (first byte 0xA9), padding, `eof`, padding. -/
def mdxHeader (eof : Nat) : Bytes :=
  (MDX_MAGIC ++ [0x02, 0x01] ++ (0xA9 :: List.replicate 25 0x20) ++ List.replicate 4 0xFF) ++
    (le64 eof ++ List.replicate 8 0)

/-- an image inside an Alcohol MDX wrapper: 64-byte header with `eof = 64 + len`. -/
def wrapMdx (img : Bytes) : Bytes := mdxHeader (MDX_HEADER + img.length) ++ img

theorem wrapSector_eq (id : Nat) (b : Bytes) :
    ∃ hd : Bytes, hd.length = MDF_HEADER ∧ wrapSector id b = hd ++ (b ++ List.replicate MDF_FOOTER 0) :=
  ⟨MDF_SYNC ++ [id / 65536 % 256, id / 256 % 256, id % 256, 0x01], rfl, by simp [wrapSector]⟩

theorem wrapSector_length (id : Nat) (b : Bytes) (hb : b.length = MDF_BODY) :
    (wrapSector id b).length = MDF_SECTOR := by
  obtain ⟨hd, hl, e⟩ := wrapSector_eq id b
  rw [e, List.length_append, List.length_append, List.length_replicate, hl, hb]; rfl

theorem wrap2352_length (id : Nat) (bs : List Bytes) (h : ∀ b ∈ bs, b.length = MDF_BODY) :
    (wrap2352 id bs).length = bs.length * MDF_SECTOR := by
  induction bs generalizing id with
  | nil => rfl
  | cons b bs ih =>
    simp only [wrap2352, List.length_append, List.length_cons]
    rw [wrapSector_length id b (h b (List.mem_cons_self ..)), ih (id + 1) (fun x hx => h x (List.mem_cons_of_mem _ hx)),
      Nat.succ_mul, Nat.add_comm]

theorem frameView_cons (S H B : Nat) (hS : 0 < S) (hHB : H + B ≤ S) (s rest : Bytes) (hs : s.length = S) :
    (List.range ((s ++ rest).length / S)).flatMap (fun i => ((s ++ rest).drop (i * S + H)).take B)
      = (s.drop H).take B ++ (List.range (rest.length / S)).flatMap fun i => (rest.drop (i * S + H)).take B := by
  have hHBs : H + B ≤ s.length := hs.symm ▸ hHB
  rw [List.length_append, hs, Nat.add_comm, Nat.add_div_right _ hS, List.range_succ_eq_map,
    List.flatMap_cons, List.flatMap_map, Nat.zero_mul, Nat.zero_add,
    List.drop_append_of_le_length (Nat.le_trans (Nat.le_add_right ..) hHBs),
    List.take_append_of_le_length (by rw [List.length_drop]; exact Nat.le_sub_of_add_le' hHBs)]
  congr 2
  funext i
  rw [Nat.succ_mul, Nat.add_right_comm, Nat.add_comm, ← hs, ← List.drop_drop, List.drop_left]

theorem mdfView_cons {s rest : Bytes} (hs : s.length = MDF_SECTOR) :
    mdfView (s ++ rest) = (s.drop MDF_HEADER).take MDF_BODY ++ mdfView rest :=
  frameView_cons MDF_SECTOR MDF_HEADER MDF_BODY (by decide) (by decide) s rest hs

/-- **C09 (raw sectors).** The 2048-byte user-data view of an image delivered as MODE1/2352 raw
sectors is the image, for any number of sectors and any sector ids. -/
theorem C09_mdf_view (id : Nat) (bs : List Bytes) (h : ∀ b ∈ bs, b.length = MDF_BODY) :
    mdfView (wrap2352 id bs) = bs.flatten := by
  induction bs generalizing id with
  | nil => simp [wrap2352, mdfView]
  | cons b bs ih =>
    have hb := h b (List.mem_cons_self ..)
    obtain ⟨hd, hl, e⟩ := wrapSector_eq id b
    rw [wrap2352, mdfView_cons (wrapSector_length id b hb),
      ih (id + 1) (fun x hx => h x (List.mem_cons_of_mem _ hx)), e, List.drop_left' hl,
      List.take_left' hb, List.flatten_cons]

theorem leVal_digits (k n : Nat) :
    leVal ((List.range k).map fun i => n / 256 ^ i % 256) = n % 256 ^ k := by
  induction k generalizing n with
  | zero => simp [leVal, Nat.mod_one]
  | succ k ih =>
    rw [List.range_succ_eq_map, List.map_cons, List.map_map, leVal]
    have : ((fun i => n / 256 ^ i % 256) ∘ Nat.succ) = fun i => n / 256 / 256 ^ i % 256 := by
      funext i; simp only [Function.comp, Nat.pow_succ, Nat.mul_comm (256 ^ i), Nat.div_div_eq_div_mul]
    rw [this, ih, Nat.pow_zero, Nat.div_one, Nat.pow_succ, Nat.mul_comm (256 ^ k), Nat.mod_mul]

theorem mdxHeader_length {n : Nat} : (mdxHeader n).length = MDX_HEADER := by
  simp only [mdxHeader, le64, List.length_append, List.length_map, List.length_range, List.length_cons,
    List.length_replicate, List.length_nil, MDX_MAGIC, MDX_HEADER]

theorem mdxHeader_eof {n : Nat} (h : n < 256 ^ 8) {rest : Bytes} : mdxEof (mdxHeader n ++ rest) = n := by
  -- 48 bytes, then the 8 bytes of `eof`
  rw [mdxEof, mdxHeader, List.append_assoc, List.drop_left' (i := 48) rfl, List.append_assoc,
    List.take_left' (by simp [le64])]
  exact (leVal_digits 8 n).trans (Nat.mod_eq_of_lt h)

/-- **C09 (MDX).** The MDX view of a wrapped image is the image. -/
theorem C09_mdx_view (img : Bytes) (h : MDX_HEADER + img.length < 256 ^ 8) :
    mdxView (wrapMdx img) = img := by
  rw [mdxView, wrapMdx, mdxHeader_eof h, List.drop_left' mdxHeader_length,
    Nat.add_sub_cancel_left, List.take_length]

/-- a raw-sector delivery is recognised as such; an MDX delivery is recognised as MDX and not as raw
sectors; an image whose third byte is 0 (every AKAI partition header: `size:u16, 00 00, …`) is
neither — a raw image is never mistaken for a container. -/
theorem C09_detect_mdf (id : Nat) (b : Bytes) (bs : List Bytes) :
    detectWrap (wrap2352 id (b :: bs)) = .mdf := by
  simp [detectWrap, isMdf, wrap2352, wrapSector, MDF_SYNC]

theorem C09_detect_mdx (img : Bytes) : detectWrap (wrapMdx img) = .mdx := by
  have hl : 64 ≤ (wrapMdx img).length := by
    rw [wrapMdx, List.length_append, mdxHeader_length]; exact Nat.le_add_right ..
  rw [detectWrap, isMdf, isMdx, decide_eq_true hl]
  rfl  -- the first 48 bytes are literals: the tests on bytes 0–18 compute

theorem C09_detect_raw (f : Bytes) (h : f[2]? = some 0) : detectWrap f = .raw := by
  -- the third byte of either magic is not 0
  have key : ∀ (n : Nat) (M : Bytes), 2 < n → M[2]? ≠ some 0 → (f.take n == M) = false := by
    intro n M hn hM
    apply beq_eq_false_iff_ne.mpr
    intro e
    rw [← e, List.getElem?_take, if_pos hn] at hM
    exact hM h
  simp only [detectWrap, isMdf, isMdx, key 12 MDF_SYNC (by decide) (by decide),
    key 16 MDX_MAGIC (by decide) (by decide), Bool.false_and, Bool.false_eq_true, if_false]

/-- **C09 (invariance).** Whatever is computed from the view (the kind of image, every `ls` answer,
every exported file) is the same for the raw image and for both wrapped deliveries: the view is the
raw image.  The parsers only use `tell/seek/read` on the view: C08. -/
theorem C09_invariant {α : Type} (g : Bytes → α) (id : Nat) (b : Bytes) (bs : List Bytes)
    (h : ∀ x ∈ b :: bs, x.length = MDF_BODY) (hm : MDX_HEADER + (b :: bs).flatten.length < 256 ^ 8) :
    g (view (wrap2352 id (b :: bs))) = g (b :: bs).flatten ∧
    g (view (wrapMdx (b :: bs).flatten)) = g (b :: bs).flatten := by
  constructor
  · rw [view, C09_detect_mdf, C09_mdf_view id (b :: bs) h]
  · rw [view, C09_detect_mdx, C09_mdx_view _ hm]

end Smpl.Props.C09
