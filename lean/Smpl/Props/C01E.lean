/-
C01 — `export` of an AKAI tree whose files carry clean, pairwise distinct names that are no halves of a
pair: one volume, the bytes of each file, the whole tree.
-/
import Smpl.Props.Export
import Smpl.Model.AkaiTool
import Smpl.Props.C06

namespace Smpl.Props.C01
open Smpl Smpl.Akai Smpl.AkaiTool Smpl.Names Smpl.Transcode Smpl.Props.C06

def sampleNode (s : Name × Nat × SampleHdr × Bytes) : FileNode := ⟨s.1, s.2.1, .sample s.2.2.1 s.2.2.2⟩

def exportSample (dir : List Name) (s : Name × Nat × SampleHdr × Bytes) : Except Err Exported := do
  let w ← exportOne (genSample s.2.2.1) [⟨monoEnc, s.2.2.2⟩]
  pure ⟨exportPath (dir ++ [s.1]), w⟩

/-- **C01 (one volume).** A volume realised without error whose sample files have clean, pairwise
distinct names that are no pair halves is exported as exactly one file per sample, in directory order,
each at `<dir>/<stored name>.wav` with the WAV `export_wav` builds from its header and data window. -/
theorem C01_export_volume (dir : List Name) (v : VolNode) (hf : v.failed = none)
    (specs : List (Name × Nat × SampleHdr × Bytes)) (hfiles : v.files = specs.map sampleNode)
    (hclean : ∀ s ∈ specs, CleanName s.1) (hnd : (specs.map (·.1)).Nodup)
    (hmono : ∀ s ∈ specs, stereoMatch s.1 = none) :
    exportVolume dir v = specs.mapM (exportSample dir) := by
  have e1 : (specs.map sampleNode).map (fun f => (f.name, true)) = specs.map (fun s => (s.1, true)) := by
    rw [List.map_map]; rfl
  simp only [exportVolume, hf, hfiles, e1, assign_clean hclean hnd, bind, Except.bind]
  -- the samples and their export names, as the model filters them out of the volume's files
  generalize hS : List.filterMap _ (List.map sampleNode specs) = S
  generalize hE : List.filterMap _ ((List.map sampleNode specs).zip (List.map (fun s => (s.fst, s.fst)) specs)) = E
  obtain rfl : S = specs.map fun s => (s.1, s.2.2.1, s.2.2.2) := by
    rw [← hS, List.filterMap_map]; exact congrFun List.filterMap_eq_map' specs
  obtain rfl : E = specs.map (·.1) := by
    rw [← hE, List.zip_map', List.filterMap_map]; exact congrFun List.filterMap_eq_map' specs
  exact mapM_combine_mono hnd hmono fun i x hx => by
    simp only [List.getElem?_map, hx, Option.map_some, exportSample, bind, Except.bind]

/-- **C01 (WAV of one mono sample).** `export_wav` of an AKAI sample file whose data window holds `d`
writes the RIFF header `buildWav` computes for the whole 16-bit frames of `d`, then exactly those
frames — through `make_transcoder` (the passthrough), for the tool's 4096-byte blocks. -/
theorem C01_export_mono_wav (h : SampleHdr) (d : Bytes) :
    exportOne (genSample h) [⟨monoEnc, d⟩] =
      match Smpl.Wav.buildWav (Smpl.Wav.metaOf (genSample h)) (wholeFrames 2 d) with
      | .error e => .error e
      | .ok bs => .ok ((bs.take (bs.length - (wholeFrames 2 d).length)).map some ++ (wholeFrames 2 d).map some) :=
  exportOne_mono_wav (genSample h) rfl d

/-- the premises of `C01_export_volume` for one volume. -/
structure PlainVolume (v : VolNode) (specs : List (Name × Nat × SampleHdr × Bytes)) : Prop where
  ok     : v.failed = none
  files  : v.files = specs.map sampleNode
  clean  : ∀ s ∈ specs, CleanName s.1
  nodup  : (specs.map (·.1)).Nodup
  mono   : ∀ s ∈ specs, stereoMatch s.1 = none

def exportPartition (specs : VolNode → List (Name × Nat × SampleHdr × Bytes)) (pe : Name) (p : PartNode) :
    Except Err (List Exported) := do
  let perVol ← p.vols.mapM fun v => (specs v).mapM (exportSample [pe, v.name])
  pure perVol.flatten

/-- **C01 (whole tree).** If every volume is a `PlainVolume` and the volume names of each partition are
clean and pairwise distinct, `export` writes, in stored order, exactly one WAV per sample file at
`<partition folder>/<volume>/<name>.wav` (bytes: `C01_export_mono_wav`) and nothing else; `pn` are
the names the tool assigns to the partitions (`A:` … written as folders `A` …). -/
theorem C01_export_tree (parts : List PartNode) (specs : VolNode → List (Name × Nat × SampleHdr × Bytes))
    (pn : List (Name × Name)) (hpn : assign (parts.map fun p => (partName p.letter, false)) = .ok pn)
    (hvol : ∀ p ∈ parts, ∀ v ∈ p.vols, PlainVolume v (specs v))
    (hnames : ∀ p ∈ parts, (∀ v ∈ p.vols, CleanName v.name) ∧ (p.vols.map (·.name)).Nodup) :
    exportOf parts = (do
      let perPart ← (parts.zip pn).mapM fun x => exportPartition specs x.2.2 x.1
      pure perPart.flatten) := by
  simp only [exportOf, hpn, bind, Except.bind]
  rw [mapM_congr (l := parts.zip pn) (g := fun x => exportPartition specs x.2.2 x.1)]
  intro ⟨p, sn, pe⟩ hx
  have hp : p ∈ parts := (List.of_mem_zip hx).1
  simp only [assign_clean (hnames p hp).1 (hnames p hp).2, exportPartition, bind, Except.bind,
    ← List.map_prod_left_eq_zip, List.mapM_map]
  rw [mapM_congr (g := fun v => (specs v).mapM (exportSample [pe, v.name]))]
  intro v hv
  obtain ⟨h1, h2, h3, h4, h5⟩ := hvol p hp v hv
  rw [Function.comp]
  exact C01_export_volume [pe, v.name] v h1 (specs v) h2 h3 h4 h5

/-- premises satisfiable: two sample files `KICK`, `SN 2` in one volume. -/
example (t1 t2 : Nat) (h1 h2 : SampleHdr) (d1 d2 : Bytes) :
    PlainVolume ⟨"DRUMS".toList, 1, [sampleNode ("KICK".toList, t1, h1, d1), sampleNode ("SN 2".toList, t2, h2, d2)], none⟩
      [("KICK".toList, t1, h1, d1), ("SN 2".toList, t2, h2, d2)] := by
  have c1 : CleanName "KICK".toList := ⟨by decide, ⟨'K', _, rfl, by decide⟩, ⟨'K', by decide, by decide⟩⟩
  have c2 : CleanName "SN 2".toList := ⟨by decide, ⟨'S', _, rfl, by decide⟩, ⟨'2', by decide, by decide⟩⟩
  have m1 : stereoMatch "KICK".toList = none := by decide
  have m2 : stereoMatch "SN 2".toList = none := by decide
  have nd : ["KICK".toList, "SN 2".toList].Nodup := by decide
  exact ⟨rfl, rfl, List.forall_mem_cons.mpr ⟨c1, List.forall_mem_cons.mpr ⟨c2, fun _ h => absurd h List.not_mem_nil⟩⟩, nd,
    List.forall_mem_cons.mpr ⟨m1, List.forall_mem_cons.mpr ⟨m2, fun _ h => absurd h List.not_mem_nil⟩⟩⟩

end Smpl.Props.C01
