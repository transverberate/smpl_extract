/-
C12 — a stereo pair of equal lengths: the two-source case of `run_whole`, read through `interleave2`.
-/
import Smpl.Props.C12L

namespace Smpl.Props.C12
open Smpl.Transcode

/-- the interleaved PCM of two mono streams, `F` frames. -/
def interleave2 (w : Nat) (a b : List Byte) (F : Nat) : List Byte :=
  (List.range F).flatMap fun f => frameOf w a f ++ frameOf w b f

def monoEnc (w : Nat) (sg : Bool) : Enc := ⟨false, w, 1, sg⟩

theorem decodeOne_mono (w m : Nat) (sg : Bool) (hw : 0 < w) (buf : List Byte) (hl : buf.length = m * w) :
    decodeOne (monoEnc w sg) buf = [groups w m buf] := by
  rw [decodeOne_eq hw Nat.one_pos, groups_eq_map]
  simp [monoEnc, Enc.frame, hl, Nat.mul_div_cancel _ hw]

theorem decodeOne_mono_nil (w : Nat) (sg : Bool) : decodeOne (monoEnc w sg) [] = [[]] := by
  simp [decodeOne, wholeFrames, monoEnc, Enc.chans]

/-- `da`, `db`: the sources' `data`, which the loop does not look at; `a`, `b`: what is left to read. -/
def pairSt (w : Nat) (sgA sgB : Bool) (da db a b : List Byte) : St :=
  [(⟨monoEnc w sgA, da⟩, a), (⟨monoEnc w sgB, db⟩, b)]

theorem framesLeft_mono {w : Nat} (hw : 0 < w) (sg : Bool) (d : List Byte) {a : List Byte} {F : Nat}
    (ha : a.length = F * w) : framesLeft (⟨monoEnc w sg, d⟩, a) = F := by
  simp [framesLeft, monoEnc, Enc.frame, ha, Nat.mul_div_cancel _ hw]

theorem forall_pairSt {w : Nat} {sgA sgB : Bool} {da db a b : List Byte} {p : Src × List Byte → Prop}
    (hl : p (⟨monoEnc w sgA, da⟩, a)) (hr : p (⟨monoEnc w sgB, db⟩, b)) : ∀ x ∈ pairSt w sgA sgB da db a b, p x := by
  intro x hx
  simp only [pairSt, List.mem_cons, List.not_mem_nil, or_false] at hx
  rcases hx with rfl | rfl <;> assumption

theorem pairSt_wide {w : Nat} {sgA sgB : Bool} {da db a b : List Byte} :
    Wide w (pairSt w sgA sgB da db a b) :=
  forall_pairSt ⟨rfl, Nat.one_pos⟩ ⟨rfl, Nat.one_pos⟩

theorem expected_pair {w : Nat} (hw : 0 < w) (sgA sgB : Bool) (da db : List Byte) {a b : List Byte} {m : Nat}
    (ha : m * w ≤ a.length) (hb : m * w ≤ b.length) :
    expected w (pairSt w sgA sgB da db a b) m = (interleave2 w a b m).map some := by
  simp only [expected_eq, pairSt, interleave2, List.flatMap_cons, List.flatMap_nil, List.append_nil,
    monoEnc, Enc.frame, Nat.one_mul]
  refine congrArg (List.map some) ?_
  apply flatMap_congr'
  intro f hf
  have := Rows.mul_add_le_of_lt (List.mem_range.mp hf) w
  have h1 : ∀ d : List Byte, m * w ≤ d.length → mapSamples (gOf false) w (frameOf w d f) = frameOf w d f :=
    fun d hd => mapSamples_id w 1 hw _ (by rw [frameOf_length w d f (Nat.le_trans this hd), Nat.one_mul])
  rw [h1 a ha, h1 b hb]

/-- a mono frame is one sample, so the buffers hold `nf * width` bytes. -/
theorem run_pair (host : Bool) (dest : Enc) (nf fuel : Nat) (sgA sgB : Bool) (da db a b : List Byte) :
    run host dest nf fuel (pairSt dest.width sgA sgB da db a b)
      = pipeLoop host dest [⟨monoEnc dest.width sgA, da⟩, ⟨monoEnc dest.width sgB, db⟩]
          [nf * dest.width, nf * dest.width] fuel [a, b] := by
  simp only [run, pairSt, List.map_cons, List.map_nil, monoEnc, Enc.frame, Nat.one_mul]

/-- **C12 (stereo pair), the loop**: on a little-endian host the blocks, concatenated, are the `F`
interleaved frames, for every block size `nf ≥ 1`. -/
theorem pipeLoop_pair (w nf : Nat) (sgA sgB : Bool) (dest : Enc) (hw : 0 < w) (hnf : 0 < nf)
    (hdw : dest.width = w) (hdb : dest.big = false) (da db : List Byte) :
    ∀ (fuel F : Nat) (a b : List Byte), a.length = F * w → b.length = F * w → F < fuel →
      (pipeLoop false dest [⟨monoEnc w sgA, da⟩, ⟨monoEnc w sgB, db⟩] [nf * w, nf * w] fuel [a, b]).flatten
        = (interleave2 w a b F).map some := by
  intro fuel F a b ha hb hF
  subst hdw
  rw [← run_pair, ← expected_pair hw sgA sgB da db (Nat.le_of_eq ha.symm) (Nat.le_of_eq hb.symm)]
  exact run_whole false hdb hw hnf (List.cons_ne_nil _ _) pairSt_wide
    (forall_pairSt (framesLeft_mono hw _ _ ha) (framesLeft_mono hw _ _ hb)) hF

theorem transcode_pair {host : Bool} {w B : Nat} {sgA sgB sgD : Bool} {a b : List Byte} :
    transcode host B ⟨false, w, 2, sgD⟩ [⟨monoEnc w sgA, a⟩, ⟨monoEnc w sgB, b⟩]
      = .ok (run host ⟨false, w, 2, sgD⟩ (numFrames B [⟨monoEnc w sgA, a⟩, ⟨monoEnc w sgB, b⟩])
          (0 + a.length + b.length + 1) (pairSt w sgA sgB a b a b)) :=
  transcode_pipe (List.cons_ne_nil _ _) rfl (fun s h => by cases h)

/-- the loop's fuel in `transcode_pair` exceeds the number of frames of the left stream. -/
theorem lt_fuel_pair {w F : Nat} (hw : 0 < w) {a : List Byte} (ha : a.length = F * w) (b : List Byte) :
    F < 0 + a.length + b.length + 1 :=
  Nat.lt_succ_of_le (Nat.le_trans (ha ▸ Nat.le_mul_of_pos_right F hw)
    (Nat.le_trans (Nat.le_add_left ..) (Nat.le_add_right ..)))

/-- **C12 (stereo pair, through `make_transcoder`).** A left and a right mono stream of `F` frames
each are written as `F` frames: frame `f` of the left stream followed by frame `f` of the right
stream, for every internal buffer size `B`. -/
theorem C12_pair (w B F : Nat) (sgA sgB sgD : Bool) (hw : 0 < w) (a b : List Byte)
    (ha : a.length = F * w) (hb : b.length = F * w) :
    ∃ blocks, transcode false B ⟨false, w, 2, sgD⟩ [⟨monoEnc w sgA, a⟩, ⟨monoEnc w sgB, b⟩] = .ok blocks ∧
      blocks.flatten = (interleave2 w a b F).map some := by
  refine ⟨_, transcode_pair, ?_⟩
  rw [run_pair]
  exact pipeLoop_pair w _ sgA sgB ⟨false, w, 2, sgD⟩ hw (numFrames_pos ..) rfl rfl a b _ F a b ha hb
    (lt_fuel_pair hw ha b)

/-- `interleave2` on two 2-frame 16-bit streams. -/
example : interleave2 2 [1, 2, 3, 4] [5, 6, 7, 8] 2 = [1, 2, 5, 6, 3, 4, 7, 8] := by decide

end Smpl.Props.C12
