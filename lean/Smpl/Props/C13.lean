/-
C13 — `ls` and `export` terminate with bounded resources on any input file.
Every loop of the model is a total Lean function (no `partial`, no fuel that can cut a run short); here
the iteration counts of the loops the property anchors are bounded by the size of what they scan. CPU
seconds and resident memory of CPython are outside the model: the statement is partial, and the
harness measures them (DESIGN.md §4 C13).
-/
import Smpl.Model.Akai
import Smpl.Model.Roland
import Smpl.Model.Cue
import Smpl.Model.AkaiProgram
import Smpl.Props.C07
import Smpl.Lemmas.AkaiPartition
import Smpl.Lemmas.ShortRead

namespace Smpl.Props.C13
open Smpl Smpl.Alloc

/-- `get_path` on any table (cyclic, self-linked, out of range) ends with a path of at most `size`
sectors or with a reported error. -/
theorem C13_get_path (links : List Link) (size start : Nat) :
    (∃ p, getPath links size start = .ok p ∧ p.length ≤ size) ∨
    (∃ e, getPath links size start = .error e) := by
  rcases Smpl.Props.C07.C07_getPath_total links size start with ⟨p, hp, _, hl⟩ | h | h
  · exact .inl ⟨p, hp, hl⟩
  · exact .inr ⟨_, h⟩
  · exact .inr ⟨_, h⟩

/-- the AKAI SAT walk strictly decreases its measure (non-dirty sectors, then distance to the
table end) at every iteration: the lemma with which Lean's termination checker accepted `akaiWalk`. -/
theorem C13_akai_walk_measure (d : List Bool) (size sub v : Nat) (hsub : sub < size) (dir : Bool)
    (hlink : dir = false → d[v]? = some false)
    (hnext : (if dir = false then v else sub + 1) < size) :
    Prod.Lex (· < ·) (· < ·)
      (phi (d.set sub true) (if dir = false then v else sub + 1),
        size - (if dir = false then v else sub + 1))
      (phi d sub, size - sub) :=
  Smpl.Alloc.akai_measure d size sub v hsub dir hlink hnext

open Smpl.Akai in
theorem parsePartition_advance {file : Bytes} {pos k : Nat} {p : Part} {next : Nat}
    (h : parsePartition file pos k = .ok (some (p, next))) : pos + SECTOR ≤ next := by
  obtain ⟨size, _, _, _, hsz, _, _, _, _, rfl⟩ := parsePartition_inv h
  exact Nat.add_le_add_left (Nat.le_mul_of_pos_left _ (Nat.pos_of_ne_zero hsz)) _

open Smpl.Akai in
theorem partitions_past_end {file : Bytes} {fuel pos k : Nat} (h : file.length ≤ pos) :
    partitions file fuel pos k = .ok [] := by
  cases fuel with
  | zero => rfl
  | succ f => simp [partitions, Nat.not_lt.mpr h]

theorem rest_shrinks {len pos next s : Nat} (hadv : pos + s ≤ next) (hn : next ≤ len) : len - next + s ≤ len - pos :=
  Nat.add_le_of_le_sub (Nat.le_sub_of_add_le' (Nat.le_trans hadv hn))
    (Nat.sub_add_eq len pos s ▸ Nat.sub_le_sub_left hadv len)

open Smpl.Akai in
/-- **the scan is bounded by the file size**: every accepted partition advances the position by
at least one sector, so at most `⌈(len − pos)/8192⌉` partitions are parsed. -/
theorem C13_partition_count (file : Bytes) (fuel pos k : Nat) (ps : List Part)
    (h : partitions file fuel pos k = .ok ps) : ps.length * SECTOR ≤ (file.length - pos) + SECTOR := by
  -- cases: no fuel; the parser raises, stops, or accepts (the rest ok / error); past the end
  fun_induction partitions file fuel pos k generalizing ps with
  | case1 => cases h; exact Nat.zero_le _
  | case2 => cases h
  | case3 => cases h; exact Nat.zero_le _
  | case4 f pos k _ p next hpp ps' hrec ih =>
    cases h
    have hadv := parsePartition_advance hpp
    by_cases hn : file.length ≤ next
    · rw [partitions_past_end hn] at hrec
      cases hrec
      simp
    · have := ih ps' hrec
      rw [List.length_cons, Nat.succ_mul]
      exact Nat.add_le_add_right (Nat.le_trans this (rest_shrinks hadv (Nat.le_of_not_le hn))) _
  | case5 => cases h
  | case6 => cases h; exact Nat.zero_le _

open Smpl.Akai in
/-- **the fuel never cuts the scan short**: with the fuel the model passes (`len/8192 + 2`), one
more unit of fuel gives the same result — the function is the unbounded loop of the code. -/
theorem C13_partition_fuel (file : Bytes) (fuel pos k : Nat)
    (hf : (file.length - pos) / SECTOR + 1 ≤ fuel) :
    partitions file (fuel + 1) pos k = partitions file fuel pos k := by
  induction fuel generalizing pos k with
  | zero => exact absurd hf (Nat.not_succ_le_zero _)
  | succ f ih =>
    rw [partitions]; conv => rhs; rw [partitions]
    split
    · split
      · rfl
      · rfl
      · rename_i p next hpp
        have hadv := parsePartition_advance hpp
        by_cases hn : file.length ≤ next
        · rw [partitions_past_end hn, partitions_past_end hn]
        · have hrest := Nat.div_le_div_right (c := SECTOR) (rest_shrinks hadv (Nat.le_of_not_le hn))
          rw [Nat.add_div_right _ (by decide)] at hrest
          rw [ih next (k + 1) (Nat.le_trans hrest (Nat.le_of_succ_le_succ hf))]
    · rfl

open Smpl.Akai in
/-- at most `k` entries come out of a table scanned for `k = len/24` iterations. -/
theorem C13_file_table (p : Part) (tbl : Bytes) (k i : Nat) (es : List FileEntry)
    (h : fileTable p tbl k i = .ok es) : es.length ≤ k := by
  -- cases: no fuel; no marker word; end marker; a fatal, skipped, or listed entry (the rest error / ok)
  fun_induction fileTable p tbl k i generalizing es with
  | case1 => cases h; exact Nat.le_refl 0
  | case2 => cases h; exact Nat.zero_le _
  | case3 => cases h; exact Nat.zero_le _
  | case4 => cases h
  | case5 k i _ _ _ _ _ ih => exact Nat.le_succ_of_le (ih es h)
  | case6 => cases h
  | case7 k i _ _ _ _ e _ rest hrec ih =>
    cases h
    have := ih rest hrec
    split
    · exact Nat.succ_le_succ this
    · exact Nat.le_succ_of_le this

open Smpl.Cue in
/-- every track consumes at least its own TRACK line: a FILE block of `n` lines yields ≤ `n` tracks. -/
theorem C13_cue_tracks (fuel : Nat) (ks : List Kind) (ts : List Track)
    (h : fileTracks fuel ks = .ok ts) : ts.length ≤ ks.length := by
  -- cases: no fuel; no lines; a blank line; a TRACK line (the rest ok / error); any other line
  fun_induction fileTracks fuel ks generalizing ts with
  | case1 => cases h; exact Nat.zero_le _
  | case2 => cases h; exact Nat.le_refl 0
  | case3 fuel rest ih => exact Nat.le_succ_of_le (ih ts h)
  | case4 fuel n m rest t rest' hbody ts' hrec ih =>
    cases h
    have := trackBody_length ⟨n, m, none, [], []⟩ rest
    rw [hbody] at this
    exact Nat.succ_le_succ (Nat.le_trans (ih ts' hrec) this)
  | case5 => cases h
  | case6 => cases h

open Smpl.Cue in
/-- the fuel `rest.length + 1` is never exhausted: one more unit changes nothing. -/
theorem C13_cue_fuel (fuel : Nat) (ks : List Kind) (hf : ks.length < fuel) :
    fileTracks (fuel + 1) ks = fileTracks fuel ks := by
  induction fuel generalizing ks with
  | zero => exact absurd hf (Nat.not_lt_zero _)
  | succ f ih =>
    cases ks with
    | nil => rfl
    | cons k rest =>
      rw [List.length_cons] at hf
      cases k with
      | blank => exact ih rest (Nat.lt_of_succ_lt_succ hf)
      | track n m =>
        have := trackBody_length ⟨n, m, none, [], []⟩ rest
        simp only [fileTracks]
        rw [ih _ (Nat.lt_of_le_of_lt this (Nat.lt_of_succ_lt_succ hf))]
      | _ => rfl

open Smpl.Roland in
/-- the volume list has at most `num_volumes` (a 16-bit count) entries. -/
theorem C13_roland_volumes (img : Img) (n : Nat) : (volumeHeads img n).length ≤ n := by
  unfold volumeHeads
  exact Nat.le_trans (List.length_filterMap_le _ _) (by simp)

open Smpl.Roland in
theorem perfScan_length (img : Img) (n i pos : Nat) : (perfScan img n i pos).length ≤ n := by
  -- cases: no slots left; short read; undecodable name; short read of the second half; a record
  fun_induction perfScan img n i pos with
  | case1 => exact Nat.le_refl 0
  | case2 => exact Nat.zero_le _
  | case3 n i pos _ _ _ ih => exact Nat.le_succ_of_le ih
  | case4 => exact Nat.zero_le _
  | case5 n i pos _ _ _ _ rest _ ih =>
    rw [List.length_append]
    split
    · rw [List.length_singleton, Nat.add_comm]; exact Nat.succ_le_succ ih
    · rw [List.length_nil, Nat.zero_add]; exact Nat.le_succ_of_le ih

open Smpl.Roland in
/-- the orphan search visits the 512 performance slots once. -/
theorem C13_roland_perf_scan (img : Img) : (perfIndices img).length ≤ 512 :=
  perfScan_length img (maxNum .perf) 0 (dirOff .perf)

open Smpl.Roland in
/-- a cluster chain handed to a sample has at most 65536 clusters, whatever the FAT holds. -/
theorem C13_roland_chain (fat : Fat) (entry top : Nat) (cl : List Nat)
    (h : fileClusters fat entry top = .ok cl) : cl.length ≤ FAT_N := by
  unfold fileClusters at h
  split at h
  · cases h
  · rename_i path hp
    cases h
    rcases C13_get_path fat.links FAT_N entry with ⟨p, hp', hl⟩ | ⟨e, he⟩
    · cases hp.symm.trans hp'
      rw [List.length_drop]
      exact Nat.le_trans (Nat.sub_le _ _) hl
    · cases hp.symm.trans he

/-- the amount of audio a window yields is bounded by the content it is cut from. -/
theorem C13_window_bound (content : Smpl.Roland.Bytes) (start n : Int) (rev : Bool) (w : Smpl.Roland.Bytes)
    (h : Smpl.Roland.windowOf content start n rev = some w) : w.length ≤ content.length := by
  have hlen : ((content.drop (2 * start.toNat)).take (2 * n.toNat)).length ≤ content.length :=
    ((List.take_sublist ..).trans (List.drop_sublist ..)).length_le
  unfold Smpl.Roland.windowOf at h
  by_cases hn : n ≤ 0
  · rw [if_pos hn] at h; cases h; exact Nat.zero_le _
  · rw [if_neg hn] at h
    dsimp only at h
    cases rev with
    | false => cases h; exact hlen
    | true =>
      rw [if_pos rfl] at h
      split at h
      · cases h; exact Nat.le_trans (Smpl.ShortRead.reverseWords_length_le _) hlen
      · cases h; exact Nat.zero_le _

open Smpl.AkaiProgram in
/-- the keygroup chain is walked exactly `number_of_keygroups − i` times (a one-byte count: at most
255), whatever next-addresses the keygroups store. -/
theorem C13_keygroups (c : Smpl.Akai.Bytes) (n : Nat) :
    ∀ (k i pos : Nat) (kgs : List Keygroup), n - i = k → parseKeygroups c n i pos = some kgs → kgs.length = k := by
  intro k i pos kgs hk h
  subst hk
  -- cases: all `n` read; a keygroup fails; the rest fails; the rest parses
  fun_induction parseKeygroups c n i pos generalizing kgs with
  | case1 i pos hi => cases h; exact (Nat.sub_eq_zero_of_le hi).symm
  | case2 => cases h
  | case3 => cases h
  | case4 i pos hi kg _ pos' rest hrest ih =>
    cases h
    rw [List.length_cons, ih rest hrest]
    -- `n - (i + 1)` unfolds to `pred (n - i)`
    exact Nat.succ_pred_eq_of_pos (Nat.sub_pos_of_lt (Nat.lt_of_not_ge hi))

end Smpl.Props.C13
