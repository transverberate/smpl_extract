/-
C19 — De-emphasis filters give the same output however the signal is split into blocks.
The filters' loops over samples (`Iir.process`) and over blocks (`Iir.run`, `Fir.run`) are one recursion,
`feed`: a state machine fed a list. Indifference to the split is `feed_flatten`.
-/
import Smpl.Model.Filter
import Smpl.Lemmas.Windows
import Smpl.Gen.Filter

namespace Smpl.Props.C19
open Smpl.Filter

variable {α : Type}

section feed
variable {β σ : Type}

def feed (step : σ → α → β × σ) (s : σ) : List α → List β × σ
  | [] => ([], s)
  | a :: as => ((step s a).1 :: (feed step (step s a).2 as).1, (feed step (step s a).2 as).2)

theorem iir_process_eq_feed : @Iir.process α = feed Iir.step := by
  funext f xs; induction xs generalizing f <;> simp [Iir.process, feed, *]

theorem iir_run_eq_feed : @Iir.run α = feed (feed Iir.step) := by
  funext f bs; induction bs generalizing f <;> simp [Iir.run, feed, iir_process_eq_feed, *]

theorem fir_run_eq_feed (step : Fir α → List α → List α × Fir α) : Fir.run step = feed step := by
  funext f bs; induction bs generalizing f <;> simp [Fir.run, feed, *]

theorem feed_append (step : σ → α → β × σ) (s : σ) (a b : List α) :
    feed step s (a ++ b) =
      ((feed step s a).1 ++ (feed step (feed step s a).2 b).1, (feed step (feed step s a).2 b).2) := by
  induction a generalizing s with
  | nil => rfl
  | cons x xs ih => simp only [List.cons_append, feed, ih]

theorem feed_flatten (step : σ → List α → List β × σ) (s : σ) (hnil : step s [] = ([], s))
    (happ : ∀ a b, step s (a ++ b) = ((step s a).1 ++ (step (step s a).2 b).1, (step (step s a).2 b).2))
    (bs : List (List α)) :
    (feed step s bs).1.flatten = (step s bs.flatten).1 ∧ (feed step s bs).2 = (step s bs.flatten).2 := by
  -- with a first block `a` the induction stays at the state `s`, of which the hypotheses speak
  have key : ∀ a, step s (a ++ bs.flatten) =
      ((step s a).1 ++ (feed step (step s a).2 bs).1.flatten, (feed step (step s a).2 bs).2) := by
    induction bs with
    | nil => simp [feed]
    | cons b bs ih => intro a; simp only [List.flatten_cons, ← List.append_assoc, ih, happ, feed]
  rw [← List.nil_append bs.flatten, key [], hnil]; exact ⟨rfl, rfl⟩

theorem feed_length (step : σ → α → β × σ) (s : σ) (l : List α) : (feed step s l).1.length = l.length := by
  induction l generalizing s <;> simp [feed, *]

theorem feed_inv (step : σ → α → β × σ) (P : σ → Prop) (Q : β → Prop)
    (h : ∀ s a, P s → P (step s a).2 ∧ Q (step s a).1) (s : σ) (hs : P s) (l : List α) :
    P (feed step s l).2 ∧ ∀ y ∈ (feed step s l).1, Q y := by
  induction l generalizing s with
  | nil => exact ⟨hs, by simp [feed]⟩
  | cons a as ih =>
    obtain ⟨h1, h2⟩ := h s a hs
    obtain ⟨i1, i2⟩ := ih _ h1
    exact ⟨i1, List.forall_mem_cons.2 ⟨h2, i2⟩⟩

end feed

/-- block by block = the concatenation in one block: same samples, same final state.
No law of arithmetic is used (`α` is any type), so this holds of IEEE doubles. -/
theorem C19_iir_split (f : Iir α) (blocks : List (List α)) :
    (f.run blocks).1.flatten = (f.process blocks.flatten).1 ∧
    (f.run blocks).2 = (f.process blocks.flatten).2 := by
  rw [iir_run_eq_feed, iir_process_eq_feed]
  exact feed_flatten (feed Iir.step) f rfl (feed_append _ _) blocks

/-- with the flush (empty for an IIR) appended. -/
theorem C19_iir_split_all (f : Iir α) (blocks : List (List α)) :
    f.runAll blocks = f.runAll [blocks.flatten] := by
  have h := C19_iir_split f blocks
  simp [Iir.runAll, Iir.run, Iir.flush, h.1]

theorem C19_iir_count (f : Iir α) (blocks : List (List α)) :
    (f.runAll blocks).length = blocks.flatten.length := by
  rw [C19_iir_split_all]
  simp [Iir.runAll, Iir.run, Iir.flush, iir_process_eq_feed, feed_length]

private theorem iir_feed_inv (f : Iir α) (xs : List α) :
    ((feed Iir.step f xs).2.reset = f.reset ∧ (feed Iir.step f xs).2.post = f.post) ∧
    ∀ y ∈ (feed Iir.step f xs).1, ∃ r, y = f.post r :=
  feed_inv Iir.step (fun g => g.reset = f.reset ∧ g.post = f.post) (fun y => ∃ r, y = f.post r)
    (fun _ _ h => ⟨h, _, congrFun h.2 _⟩) f ⟨rfl, rfl⟩ xs

theorem C19_iir_reset (o : Ops α) (b a : List α) (post : α → α) (xs : List α) :
    ((Iir.init o b a post).process xs).2.reset = Iir.init o b a post := by
  rw [iir_process_eq_feed]
  exact (iir_feed_inv _ xs).1.1

/-- every output is a value of the feedback post-processor (`_c_bound` for the ChickenSys IIR). -/
theorem C19_iir_outputs_post (f : Iir α) (xs : List α) :
    ∀ y ∈ (f.process xs).1, ∃ r, y = f.post r := by
  rw [iir_process_eq_feed]
  exact (iir_feed_inv f xs).2

theorem bound_spec (lo hi x : Int) (h : lo ≤ hi) :
    lo ≤ bound lo hi x ∧ bound lo hi x ≤ hi ∧ (lo ≤ x → x ≤ hi → bound lo hi x = x) := by
  unfold bound
  by_cases h1 : hi < x
  · rw [if_pos h1]; exact ⟨h, Int.le_refl hi, fun _ h2 => absurd h1 (Int.not_lt.mpr h2)⟩
  · by_cases h2 : x < lo
    · rw [if_neg h1, if_pos h2]; exact ⟨Int.le_refl lo, h, fun h3 _ => absurd h2 (Int.not_lt.mpr h3)⟩
    · rw [if_neg h1, if_neg h2]; exact ⟨Int.not_lt.mp h2, Int.not_lt.mp h1, fun _ _ => rfl⟩

/-- `_c_bound` over the integers (`csIir` itself uses `floatBound`, next theorem). -/
theorem C19_csiir_sat (x : Int) :
    -32767 ≤ bound (-32767) 32767 x ∧ bound (-32767) 32767 x ≤ 32767 ∧
    (-32767 ≤ x → x ≤ 32767 → bound (-32767) 32767 x = x) :=
  bound_spec (-32767) 32767 x (by decide)

theorem C19_csiir_sat_float (x : Float) :
    floatBound x = Float.ofNat 32767 ∨ floatBound x = Float.ofInt (-32767) ∨
    (floatBound x = x ∧ ¬ x > Float.ofNat 32767 ∧ ¬ x < Float.ofInt (-32767)) := by
  simp only [floatBound]
  split
  next => exact .inl rfl
  next h1 =>
    split
    next => exact .inr (.inl rfl)
    next h2 => exact .inr (.inr ⟨rfl, h1, h2⟩)

/-- ChickenSys FIR: every output is within the int16 range: saturation, never wrap-around.
(`csDot` is a `boundAndFix`, by definition `bound (-32768) 32767`.) -/
theorem C19_csfir_sat (h : List Int) (k : Int) (w : List Int) :
    -32768 ≤ csDot h k w ∧ csDot h k w ≤ 32767 :=
  have := bound_spec (-32768) 32767 _ (by decide)
  ⟨this.1, this.2.1⟩

theorem C19_csfir_exact (y : Int) (h1 : -32768 ≤ y) (h2 : y ≤ 32767) : boundAndFix y = y :=
  (bound_spec (-32768) 32767 y (by decide)).2.2 h1 h2

theorem processFixed_nil {f : Fir α} (h : f.xprev.length < f.n) : Fir.processFixed f [] = ([], f) := by
  simp only [Fir.processFixed, Fir.convValid, List.append_nil, windows_short _ _ h,
    lastN_eq_self _ _ (Nat.le_sub_one_of_lt h), List.map_nil]

theorem processFixed_append {f : Fir α} (hn : 1 ≤ f.n) (a b : List α) :
    Fir.processFixed f (a ++ b) =
      ((Fir.processFixed f a).1 ++ (Fir.processFixed (Fir.processFixed f a).2 b).1,
        (Fir.processFixed (Fir.processFixed f a).2 b).2) := by
  simp only [Fir.processFixed, Fir.convValid, ← List.append_assoc, windows_append f.n hn (f.xprev ++ a),
    List.map_append, lastN_append_lastN]

/-- Repaired FIR (history = tail of `x_prev ++ x`): feeding any blocks (even empty ones) and flushing
is one valid convolution of the zero-padded whole signal. The code as written does not meet this
(`C19_fir_counterexample`). -/
theorem C19_fir_split_fixed (n m0 : Nat) (dot : List α → α) (zero : α) (hn : 1 ≤ n)
    (blocks : List (List α)) :
    Fir.runAll Fir.processFixed (Fir.init n m0 dot zero) blocks =
      (windows n (List.replicate (n - m0 - 1) zero ++ blocks.flatten ++ List.replicate m0 zero)).map dot := by
  have h0 : (Fir.init n m0 dot zero).xprev.length < n := by
    simp only [Fir.init, List.length_replicate, Nat.sub_sub]
    exact Nat.sub_lt hn (Nat.succ_pos m0)
  obtain ⟨h1, h2⟩ := feed_flatten Fir.processFixed (Fir.init n m0 dot zero)
    (processFixed_nil h0) (processFixed_append hn) blocks
  simp only [Fir.runAll, fir_run_eq_feed, h1, h2]
  -- the flush puts out the windows that the trailing zeros add
  simp only [Fir.processFixed, Fir.init, Fir.flush, Fir.convValid, windows_append n hn (_ ++ _),
    List.map_append]

theorem C19_fir_count_fixed (n m0 : Nat) (dot : List α → α) (zero : α) (hn : 1 ≤ n) (hm : m0 < n)
    (blocks : List (List α)) :
    (Fir.runAll Fir.processFixed (Fir.init n m0 dot zero) blocks).length = blocks.flatten.length := by
  obtain ⟨k, rfl⟩ := Nat.exists_eq_add_of_lt hm  -- `n = m0 + k + 1`
  rw [C19_fir_split_fixed _ m0 dot zero hn, List.length_map, windows_length]
  simp only [List.length_append, List.length_replicate]
  rw [Nat.add_assoc m0, Nat.add_sub_cancel_left, Nat.add_sub_cancel]
  exact Nat.sub_eq_of_eq_add (by omega)

/-- on a block at least as long as the filter memory the code as written is the repaired filter. -/
theorem process_eq_fixed {f : Fir α} (hn : 2 ≤ f.n) {b : List α} (hb : f.n - 1 ≤ b.length) :
    Fir.process f b = Fir.processFixed f b := by
  -- `N - 1 ≠ 0`, so `x[-(N-1):]` is the last `N - 1` of the block, and those are the last of `xprev ++ x`
  unfold Fir.process Fir.processFixed pyLast lastN
  rw [if_neg (Nat.sub_ne_zero_of_lt hn), List.length_append, Nat.add_sub_assoc hb,
    List.drop_length_add_append]

private theorem run_eq_fixed {f : Fir α} (hn : 2 ≤ f.n) {bs : List (List α)}
    (hb : ∀ b ∈ bs, f.n - 1 ≤ b.length) :
    Fir.run Fir.process f bs = Fir.run Fir.processFixed f bs := by
  induction bs generalizing f with
  | nil => rfl
  | cons b bs ih =>
    simp only [Fir.run]
    rw [process_eq_fixed hn (hb b (List.mem_cons_self ..)),
      ih (f := (Fir.processFixed f b).2) hn fun x hx => hb x (List.mem_cons_of_mem _ hx)]

/-- PARTIAL (code as written): the split does not matter when every block has at least `N-1 ≥ 1`
samples. For any non-empty blocks it is FALSE: `C19_fir_counterexample`. -/
theorem C19_fir_split_partial (n m0 : Nat) (dot : List α → α) (zero : α) (hn : 2 ≤ n)
    (blocks : List (List α)) (hb : ∀ b ∈ blocks, n - 1 ≤ b.length) :
    Fir.runAll Fir.process (Fir.init n m0 dot zero) blocks =
      (windows n (List.replicate (n - m0 - 1) zero ++ blocks.flatten ++ List.replicate m0 zero)).map dot := by
  rw [← C19_fir_split_fixed n m0 dot zero (Nat.le_of_succ_le hn), Fir.runAll, run_eq_fixed hn hb]; rfl

theorem C19_fir_count_partial (n m0 : Nat) (dot : List α → α) (zero : α) (hn : 2 ≤ n) (hm : m0 < n)
    (blocks : List (List α)) (hb : ∀ b ∈ blocks, n - 1 ≤ b.length) :
    (Fir.runAll Fir.process (Fir.init n m0 dot zero) blocks).length = blocks.flatten.length := by
  have hn1 : 1 ≤ n := Nat.le_of_succ_le hn
  rw [C19_fir_split_partial n m0 dot zero hn blocks hb, ← C19_fir_split_fixed n m0 dot zero hn1]
  exact C19_fir_count_fixed n m0 dot zero hn1 hm blocks

/-- The code as written violates the property: a 4-tap FIR fed ten samples in blocks of two returns
six samples, and a 1-tap FIR duplicates its output (D11; replayed on the implementation). -/
theorem C19_fir_counterexample :
    (Fir.runAll Fir.process (Fir.init 4 0 (fun w => w.foldl (· + ·) (0 : Int)) 0)
        [[1, 2], [3, 4], [5, 6], [7, 8], [9, 10]]).length = 6 ∧
    Fir.runAll Fir.process (Fir.init 1 0 (fun w => w.foldl (· + ·) (0 : Int)) 0) [[1, 2], [3]]
        = [1, 2, 1, 2, 3, 3] := by
  decide +kernel

theorem C19_fir_reset (n m0 : Nat) (dot : List α → α) (zero : α) (bs : List (List α)) :
    (Fir.run Fir.process (Fir.init n m0 dot zero) bs).2.reset = Fir.init n m0 dot zero := by
  rw [fir_run_eq_feed]
  exact (feed_inv Fir.process (fun g => g.reset = Fir.init n m0 dot zero) (fun _ => True)
    (fun _ _ h => ⟨h, trivial⟩) _ rfl bs).1

/-! ### the presets of filters/common.py, as the translator reads them, are the model's -/

theorem C19_gen_roland_preset :
    Gen.Filter.chickSysRolandH = chickSysRolandH ∧ Gen.Filter.chickSysRolandK = chickSysRolandK ∧
    Gen.Filter.chickSysRolandM0 = chickSysRolandM0 ∧ Gen.Filter.rolandPresetN = chickSysRolandH.length ∧
    Gen.Filter.rolandPresetM0 = chickSysRolandM0 ∧ Gen.Filter.rolandPresetK = chickSysRolandK ∧
    chickSysRolandM0 < chickSysRolandH.length := by decide +kernel

private def bitsOf (l : List Float) : List Nat := l.map fun x => x.toBits.toNat
private def presetB (c : Float × Float × Float) : List Float := (csIir c.1 c.2.1 c.2.2).b
private def presetA (c : Float × Float × Float) : List Float := (csIir c.1 c.2.1 c.2.2).a

theorem C19_gen_iir_presets :
    Gen.Filter.standardB = bitsOf (presetB csStandard) ∧ Gen.Filter.standardA = bitsOf (presetA csStandard) ∧
    Gen.Filter.darkerB = bitsOf (presetB csDarker) ∧ Gen.Filter.darkerA = bitsOf (presetA csDarker) ∧
    Gen.Filter.specialB = bitsOf (presetB csSpecial) ∧ Gen.Filter.specialA = bitsOf (presetA csSpecial) := by
  decide +kernel

/-- so `m0 < n`, the hypothesis of the count theorems, holds of this preset as of Roland's. -/
theorem C19_gen_cdxtract : Gen.Filter.cdxtractN = 8 ∧ Gen.Filter.cdxtractM0 = 0 ∧
    Gen.Filter.cdxtractHBits.length = 8 := by decide

-- non-vacuity: a split that meets the hypothesis of the partial theorems
example : ∀ b ∈ [[1, 2, 3], [4, 5, 6, 7], [8, 9, (10 : Int)]], 4 - 1 ≤ b.length := by decide
example : Fir.runAll Fir.processFixed (Fir.init 4 0 (fun w => w.foldl (· + ·) (0 : Int)) 0)
    [[1, 2], [3, 4], [5, 6], [7, 8], [9, 10]] = [1, 3, 6, 10, 14, 18, 22, 26, 30, 34] := by decide +kernel

end Smpl.Props.C19
