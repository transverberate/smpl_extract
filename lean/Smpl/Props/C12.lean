/-
C12 — PCM transcoding maps every source channel to the same-numbered output channel.
-/
import Smpl.Model.Transcode

namespace Smpl.Props.C12
open Smpl.Transcode

theorem wholeFrames_length (frame : Nat) (buf : List Byte) :
    (wholeFrames frame buf).length = buf.length / frame * frame := by
  unfold wholeFrames
  rw [List.length_take]
  exact Nat.min_eq_left (Nat.div_mul_le_self _ _)

/-- `resize_buffer` keeps a whole number of frames and drops less than one frame. -/
theorem C12_tail (frame : Nat) (hf : 0 < frame) (buf : List Byte) :
    (wholeFrames frame buf).length % frame = 0 ∧
    (wholeFrames frame buf).length ≤ buf.length ∧
    buf.length < (wholeFrames frame buf).length + frame := by
  rw [wholeFrames_length]
  exact ⟨Nat.mul_mod_left _ _, Nat.div_mul_le_self _ _, Nat.lt_div_mul_add hf⟩

/-- what the byte-order steps must do, one flag per decoded channel: reverse its samples iff source
and destination byte orders differ (the host's must not matter). -/
def destFlags (dest : Enc) (srcs : List Src) : List Bool :=
  srcs.flatMap fun s => List.replicate s.enc.chans (s.enc.big != dest.big)

def applyFlags (chs : List (List Sample)) (flags : List Bool) : List (List Sample) :=
  (chs.zip flags).map fun (ch, f) => if f then ch.map List.reverse else ch

/-- a flag applied to one sample; for a little-endian destination the flag is the source's `big`. -/
def gOf (big : Bool) : Sample → Sample := fun s => if big then s.reverse else s

theorem applyFlags_const (b : Bool) (chs : List (List Sample)) (flags : List Bool)
    (hl : chs.length = flags.length) (h : ∀ f ∈ flags, f = b) : applyFlags chs flags = chs.map (·.map (gOf b)) := by
  induction chs generalizing flags with
  | nil => rfl
  | cons c cs ih =>
    cases flags with
    | nil => exact absurd hl (Nat.succ_ne_zero _)
    | cons f fs =>
      have ih := ih fs (Nat.succ.inj hl) (fun x hx => h x (List.mem_cons_of_mem _ hx))
      rw [h f (List.mem_cons_self ..)]
      simp only [applyFlags, List.zip_cons_cons, List.map_cons] at ih ⊢
      rw [ih]
      cases b
      · simp [show gOf false = id from rfl]
      · simp [show gOf true = List.reverse from rfl]

theorem gOf_length (b : Bool) (s : Sample) : (gOf b s).length = s.length := by
  cases b <;> simp [gOf]

theorem applyFlags_replicate (b : Bool) (chs : List (List Sample)) :
    applyFlags chs (List.replicate chs.length b) = chs.map (·.map (gOf b)) :=
  applyFlags_const b chs _ (by simp) (fun f hf => (List.mem_replicate.mp hf).2)

theorem applyFlags_append {a b : List (List Sample)} {fa fb : List Bool} (h : a.length = fa.length) :
    applyFlags (a ++ b) (fa ++ fb) = applyFlags a fa ++ applyFlags b fb := by
  unfold applyFlags
  rw [List.zip_append h, List.map_append]

theorem applyFlags_flatMap {α : Type} (c : α → List (List Sample)) (b : α → Bool) (l : List α) :
    applyFlags (l.flatMap c) (l.flatMap fun x => List.replicate (c x).length (b x))
      = l.flatMap fun x => (c x).map (·.map (gOf (b x))) := by
  induction l with
  | nil => rfl
  | cons x xs ih =>
    simp only [List.flatMap_cons]
    rw [applyFlags_append (List.length_replicate ..).symm, applyFlags_replicate, ih]

theorem applyFlags_then (q : Bool) (chs : List (List Sample)) (flags : List Bool) :
    (if q then (applyFlags chs flags).map (·.map List.reverse) else applyFlags chs flags)
      = applyFlags chs (flags.map (· != q)) := by
  simp only [applyFlags, List.zip_map_right, List.map_map]
  cases q
  · simp
  · apply List.map_congr_left
    intro (ch, f) _
    cases f
    · rfl
    · simp [Function.comp_def]

/-- **Byte-order routing (D8).** Whatever the host byte order and whichever of the three process lists
`make_transcoder` builds (none / swap all / swap some), a channel has its samples reversed exactly
when its *source stream's* byte order differs from the destination's. -/
theorem C12_swaps_host_independent (host : Bool) (dest : Enc) (srcs : List Src)
    (chs : List (List Sample)) (hl : chs.length = (destFlags dest srcs).length) :
    applySwaps host dest srcs chs = applyFlags chs (destFlags dest srcs) := by
  have hlen : chs.length = (swapFlags host srcs).length := by
    rw [hl]; simp [destFlags, swapFlags, List.length_flatMap]
  have hmem : ∀ f ∈ swapFlags host srcs, f ∈ srcs.map fun s => s.enc.big != host := by
    intro f hf
    simp only [swapFlags, List.mem_flatMap, List.mem_replicate] at hf
    obtain ⟨s, hs, _, rfl⟩ := hf
    exact List.mem_map_of_mem hs
  -- each of the three process lists applies `swapFlags host` channel by channel
  have hin : (if (srcs.map fun s => s.enc.big != host).any id then
        if (srcs.map fun s => s.enc.big != host).all id then chs.map (·.map List.reverse)
        else (chs.zip (swapFlags host srcs)).map fun (ch, f) => if f then ch.map List.reverse else ch
      else chs) = applyFlags chs (swapFlags host srcs) := by
    generalize (srcs.map fun s => s.enc.big != host) = per at hmem ⊢
    by_cases hany : per.any id = true
    · rw [if_pos hany]
      by_cases hall : per.all id = true
      · rw [if_pos hall]
        exact (applyFlags_const true chs _ hlen fun f hf => List.all_eq_true.mp hall f (hmem f hf)).symm
      · rw [if_neg hall]
        rfl
    · rw [if_neg hany, applyFlags_const false chs _ hlen fun f hf =>
        Bool.eq_false_iff.mpr fun hf' => hany (List.any_eq_true.mpr ⟨f, hmem f hf, hf'⟩)]
      exact ((List.map_congr_left fun ch _ => List.map_id ch).trans (List.map_id chs)).symm
  unfold applySwaps
  simp only [hin]
  -- the output step flips every flag or none, and `(big != host) != (dest.big != host)` is `big != dest.big`
  have hb : ∀ a d h : Bool, ((a != h) != (d != h)) = (a != d) := by decide
  rw [applyFlags_then]
  simp only [swapFlags, destFlags, List.map_flatMap, List.map_replicate, hb]

/-- one flag per decoded channel. -/
theorem C12_flag_count (dest : Enc) (srcs : List Src) :
    (destFlags dest srcs).length = (srcs.map (·.enc.chans)).sum := by
  simp [destFlags, List.length_flatMap]

/-- `make_transcoder` rejects an empty stream list and a destination whose channel count is not the
sum of the sources': an accepted transcoder has one output channel per source channel. -/
theorem C12_channels (host : Bool) (B : Nat) (dest : Enc) (srcs : List Src) (r)
    (h : transcode host B dest srcs = .ok r) :
    srcs ≠ [] ∧ (srcs.map (·.enc.chans)).foldl (· + ·) 0 = dest.nch := by
  unfold transcode at h
  by_cases h1 : srcs.isEmpty = true
  · rw [if_pos h1] at h; cases h
  · by_cases h2 : ((srcs.map (·.enc.chans)).foldl (· + ·) 0 != dest.nch) = true
    · rw [if_neg h1, if_pos h2] at h; cases h
    · exact ⟨fun e => h1 (e ▸ rfl), by simpa using h2⟩

-- non-vacuity: a mixed-endian pair with an interleaved stream
example : applySwaps false ⟨false, 2, 3, true⟩ [⟨⟨false, 2, 2, true⟩, []⟩, ⟨⟨true, 2, 1, true⟩, []⟩]
    [[[1, 2]], [[3, 4]], [[5, 6]]] = [[[1, 2]], [[3, 4]], [[6, 5]]] := by decide +kernel

end Smpl.Props.C12
