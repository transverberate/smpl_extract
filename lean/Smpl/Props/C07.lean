/-
C07 — Allocation chains resolve to exactly the linked sectors, and always terminate.
-/
import Smpl.Lemmas.Walk

namespace Smpl.Props.C07
open Smpl Smpl.Alloc

/-- Specification: `c` is a chain of the link table, its sectors in any order. -/
def Chain (links : List Link) : List Nat → Prop
  | [] => False
  | [a] => ∃ l, links[a]? = some l ∧ l.isEnd = true
  | a :: b :: rest => (∃ l, links[a]? = some l ∧ l.isEnd = false ∧ l.next = b) ∧ Chain links (b :: rest)

def LStep (links : List Link) (a b : Nat) : Prop := ∃ l, links[a]? = some l ∧ l.isEnd = false ∧ l.next = b

def LEnd (links : List Link) (a : Nat) : Prop := ∃ l, links[a]? = some l ∧ l.isEnd = true

theorem chain_iff {links : List Link} {c : List Nat} :
    Chain links c ↔ c ≠ [] ∧ Path (LStep links) (LEnd links) c := by
  induction c using Path.induct with
  | case1 => exact ⟨False.elim, fun h => h.1 rfl⟩
  | case2 a => exact ⟨fun h => ⟨List.cons_ne_nil _ _, h⟩, fun h => h.2⟩
  | case3 a b r ih =>
    exact ⟨fun h => ⟨List.cons_ne_nil _ _, h.1, (ih.mp h.2).2⟩, fun h => ⟨h.2.1, ih.mpr ⟨List.cons_ne_nil _ _, h.2.2⟩⟩⟩

/-- A well-formed chain is resolved to exactly its sectors, in order, whatever the order of the sector
numbers, if it is not longer than the table's `size`. -/
theorem C07_getPath_wf (links : List Link) (size : Nat) (c : List Nat) (h : Chain links c)
    (hlen : c.length ≤ size) : getPath links size (c.headD 0) = .ok c := by
  unfold getPath
  induction c generalizing size with
  | nil => exact h.elim
  | cons a rest ih =>
    cases size with
    | zero => exact absurd hlen (Nat.not_succ_le_zero _)
    | succ fuel =>
      cases rest with
      | nil =>
        obtain ⟨l, hl, he⟩ := h
        simp [walk, hl, he]
      | cons b rest' =>
        obtain ⟨⟨l, hl, he, hn⟩, hrest⟩ := h
        have := ih fuel hrest (Nat.le_of_succ_le_succ hlen)
        simp only [List.headD_cons] at this ⊢
        simp [walk, hl, he, hn, this]

/-- Soundness: whatever `get_path` returns is a chain of the table starting at the start sector. -/
theorem C07_getPath_sound (links : List Link) (size start : Nat) (p : List Nat)
    (h : getPath links size start = .ok p) : Chain links p ∧ p.head? = some start := by
  unfold getPath at h
  induction size generalizing start p with
  | zero => cases h
  | succ fuel ih =>
    rw [walk] at h
    split at h
    · cases h
    · rename_i l hl
      split at h
      · cases h; exact ⟨⟨l, hl, ‹_›⟩, rfl⟩
      · split at h
        · rename_i q hw
          cases h
          obtain ⟨hc, hh⟩ := ih l.next q hw
          cases q with
          | nil => cases hh
          | cons b rest =>
            cases hh
            exact ⟨⟨⟨l, hl, by simpa using ‹¬ l.isEnd = true›, rfl⟩, hc⟩, rfl⟩
        · cases h

/-- On **every** link table (cycles, self-links, cross-links, links beyond the table) and every start,
`get_path` ends: with a non-empty path of at most `size` sectors, or with one of the two reported
errors. (True of the code after the `fix:` of D6.) -/
theorem C07_getPath_total (links : List Link) (size start : Nat) :
    (∃ p, getPath links size start = .ok p ∧ p ≠ [] ∧ p.length ≤ size) ∨
    getPath links size start = .error .invalidFat ∨
    getPath links size start = .error .invalidSector := by
  unfold getPath
  induction size generalizing start with
  | zero => right; left; rfl
  | succ fuel ih =>
    rw [walk]
    cases hl : links[start]? with
    | none => right; right; rfl
    | some l =>
      by_cases he : l.isEnd = true
      · left; exact ⟨[start], by simp [he], List.cons_ne_nil _ _, Nat.succ_le_succ (Nat.zero_le _)⟩
      · rcases ih l.next with ⟨p, hp, hne, hlen⟩ | hp | hp
        · left; exact ⟨start :: p, by simp [he, hp], List.cons_ne_nil _ _, Nat.succ_le_succ hlen⟩
        · right; left; simp [he, hp]
        · right; right; simp [he, hp]

/-- a cyclic table is reported, not followed forever: the 1-cycle `0 → 0`. -/
theorem C07_getPath_cycle_reported (size : Nat) :
    getPath [⟨0, false⟩] size 0 = .error .invalidFat := by
  unfold getPath
  induction size with
  | zero => rfl
  | succ n ih => simp [walk, ih]

/-- `add_to_sector_links` installs exactly the chain it is given (distinct, in-range sectors). -/
theorem C07_addLinks_chain (c : List Nat) (links : List Link) (hne : c ≠ []) (hnd : c.Nodup)
    (hr : ∀ s ∈ c, s < links.length) :
    ∃ ls, addLinks c links = .ok ls ∧ ls.length = links.length ∧ Chain ls c ∧
      (∀ j, j ∉ c → ls[j]? = links[j]?) := by
  induction c generalizing links with
  | nil => exact absurd rfl hne
  | cons a rest ih =>
    have ha : a < links.length := hr a (List.mem_cons_self ..)
    cases rest with
    | nil =>
      refine ⟨links.set a ⟨0, true⟩, by rw [addLinks, if_pos ha], List.length_set, ?_, ?_⟩
      · exact ⟨⟨0, true⟩, List.getElem?_set_self ha, rfl⟩
      · exact fun j hj => List.getElem?_set_ne (fun e => hj (List.mem_singleton.mpr e.symm))
    | cons b rest' =>
      have hnd' : (b :: rest').Nodup := (List.nodup_cons.mp hnd).2
      have hanot : a ∉ b :: rest' := (List.nodup_cons.mp hnd).1
      obtain ⟨ls, h1, h2, h3, h4⟩ := ih (links.set a ⟨b, false⟩) (List.cons_ne_nil _ _) hnd'
        (by rw [List.length_set]; exact fun s hs => hr s (List.mem_cons_of_mem _ hs))
      refine ⟨ls, by rw [addLinks, if_pos ha, h1], h2.trans List.length_set, ?_, ?_⟩
      · exact ⟨⟨⟨b, false⟩, (h4 a hanot).trans (List.getElem?_set_self ha), rfl, rfl⟩, h3⟩
      · intro j hj
        rw [h4 j (fun h => hj (List.mem_cons_of_mem _ h)),
          List.getElem?_set_ne (fun e => hj (List.mem_cons.mpr (.inl e.symm)))]

/-- AKAI SAT decoding terminates on every word table: the inner walk (`Smpl.Alloc.akaiWalk`) is defined by
well-founded recursion on `(2·#clean − [current clean], size − current)`, the outer loop is a fold over
`range size`. The statement only records that the decoder is a total function. -/
theorem C07_akai_total (words : List Nat) : ∃ r, akaiDecode words = r := ⟨_, rfl⟩

/-- Roland FAT decoding terminates on every word table (structural recursion on the loop guard). -/
theorem C07_roland_total (words : List Nat) : ∃ r, rolandDecode words = r := ⟨_, rfl⟩

-- non-vacuity: a chain whose head is not its lowest sector
example : Chain [⟨0, true⟩, ⟨0, true⟩, ⟨0, true⟩, ⟨0, true⟩, ⟨0, true⟩, ⟨6, false⟩, ⟨0, true⟩, ⟨5, false⟩]
    [7, 5, 6] := by
  refine ⟨⟨⟨5, false⟩, by decide, rfl, rfl⟩, ⟨⟨6, false⟩, by decide, rfl, rfl⟩, ⟨⟨0, true⟩, by decide, rfl⟩⟩

end Smpl.Props.C07
