/-
C12 — samples, frames and one block of any number of sources. A buffer is read through one window
function, `frameOf w d i` (the `i`-th group of `w` bytes of `d`), so every fact about a block is a
fact about window indices: sample `f * nch + c` of a buffer is frame `f`, channel `c`.
-/
import Smpl.Props.C12
import Smpl.Lemmas.Rows

namespace Smpl.Props.C12
open Smpl.Transcode

theorem flatMap_congr' {α β : Type} (l : List α) (f g : α → List β) (h : ∀ x ∈ l, f x = g x) :
    l.flatMap f = l.flatMap g := by
  rw [List.flatMap_def, List.flatMap_def, List.map_congr_left h]

theorem filterMap_congr' {α β : Type} (l : List α) (f g : α → Option β) (h : ∀ x ∈ l, f x = g x) :
    l.filterMap f = l.filterMap g := by
  induction l with
  | nil => rfl
  | cons a as ih =>
    simp only [List.filterMap_cons]
    rw [h a (by simp), ih (fun x hx => h x (by simp [hx]))]

theorem foldl_max_eq (l : List Nat) (hne : l ≠ []) (acc : Nat) : ∃ a ∈ l, l.foldl max acc = max acc a := by
  obtain ⟨a, ha⟩ : ∃ a, l.max? = some a := by
    cases l with
    | nil => exact absurd rfl hne
    | cons x xs => exact ⟨_, List.max?_cons' ..⟩
  exact ⟨a, (List.max?_eq_some_iff.mp ha).1, by rw [List.foldl_max, ha, Option.getD_some]⟩

theorem foldl_max_const (k : Nat) (l : List Nat) (acc : Nat) (hacc : acc ≤ k) (hne : l ≠ [])
    (h : ∀ x ∈ l, x = k) : l.foldl max acc = k := by
  obtain ⟨a, ha, he⟩ := foldl_max_eq l hne acc
  rw [he, h a ha]
  exact Nat.max_eq_right hacc

theorem flatMap_double {β : Type} (n : Nat) (h : Nat → List β) (m : Nat) :
    (List.range m).flatMap (fun f => (List.range n).flatMap (fun c => h (f * n + c)))
      = (List.range (m * n)).flatMap h := by
  induction m with
  | zero => simp
  | succ m ih =>
    rw [List.range_succ, List.flatMap_append, ih, Nat.succ_mul, List.range_add, List.flatMap_append]
    refine congrArg _ ?_
    simp [List.flatMap_map]

theorem flatMap_range_getD {α β : Type} (F : α → List β) (d : α) (l : List α) :
    (List.range l.length).flatMap (fun i => F (l[i]?.getD d)) = l.flatMap F := by
  induction l with
  | nil => rfl
  | cons a as ih =>
    rw [List.length_cons, List.range_succ_eq_map, List.flatMap_cons, List.flatMap_map, List.flatMap_cons, ← ih]
    rfl

theorem le_foldl_add {l : List Nat} {x : Nat} (h : x ∈ l) : x ≤ l.foldl (· + ·) 0 := by
  rw [← List.sum_eq_foldl]
  induction l with
  | nil => cases h
  | cons a as ih =>
    rw [List.sum_cons]
    rcases List.mem_cons.mp h with rfl | h
    · exact Nat.le_add_right ..
    · exact Nat.le_trans (ih h) (Nat.le_add_left ..)

/-- group `f` of `w` bytes of `d`: sample `f` of a mono stream, frame `f` when `w` is the frame size. -/
def frameOf (w : Nat) (d : List Byte) (f : Nat) : List Byte := (d.drop (f * w)).take w

/- `frameOf w d f` is `Rows.row w d f`: the facts about rows under its name, for `rw`. -/

theorem frameOf_take (w S : Nat) (d : List Byte) (f : Nat) (h : f * w + w ≤ S) :
    frameOf w (d.take S) f = frameOf w d f :=
  Rows.row_take h

theorem frameOf_drop (w k : Nat) (d : List Byte) (f : Nat) :
    frameOf w (d.drop (k * w)) f = frameOf w d (f + k) :=
  Nat.add_comm k f ▸ Rows.row_drop w k d f

theorem frameOf_length (w : Nat) (d : List Byte) (f : Nat) (h : f * w + w ≤ d.length) :
    (frameOf w d f).length = w :=
  Rows.row_length h

theorem groups_eq_map (w : Nat) : ∀ (n : Nat) (l : List Byte),
    groups w n l = (List.range n).map (frameOf w l)
  | 0, _ => rfl
  | n + 1, l => by
    rw [groups, groups_eq_map w n]
    exact (Rows.map_row_succ w n l).symm

theorem groups_length (w n : Nat) (l : List Byte) : (groups w n l).length = n := by
  simp [groups_eq_map]

theorem groups_get (w n : Nat) (l : List Byte) (f : Nat) (h : f < n) :
    (groups w n l)[f]? = some (frameOf w l f) := by
  simp [groups_eq_map, h]

theorem samplesOf_eq_map (w : Nat) (buf : List Byte) :
    samplesOf w buf = (List.range (buf.length / w)).map (frameOf w buf) :=
  groups_eq_map ..

theorem samplesOf_exact (w m : Nat) (hw : 0 < w) (buf : List Byte) (hl : buf.length = m * w) :
    samplesOf w buf = groups w m buf := by
  unfold samplesOf
  rw [hl, Nat.mul_div_cancel _ hw]

theorem wholeFrames_exact (w m : Nat) (hw : 0 < w) (buf : List Byte) (hl : buf.length = m * w) :
    wholeFrames w buf = buf := by
  unfold wholeFrames
  rw [hl, Nat.mul_div_cancel _ hw]
  exact List.take_of_length_le (Nat.le_of_eq hl)

theorem wholeFrames_eq_nil_iff (frame : Nat) (buf : List Byte) :
    wholeFrames frame buf = [] ↔ buf.length / frame = 0 := by
  rw [← List.length_eq_zero_iff, wholeFrames_length, Nat.mul_eq_zero]
  constructor
  · rintro (h | rfl)
    · exact h
    · exact Nat.div_zero _
  · exact Or.inl

theorem wholeFrames_short (frame : Nat) (buf : List Byte) (h : buf.length < frame) :
    wholeFrames frame buf = [] :=
  (wholeFrames_eq_nil_iff frame buf).mpr (Nat.div_eq_of_lt h)

theorem samplesOf_wholeFrames {w : Nat} (hw : 0 < w) (n : Nat) (buf : List Byte) :
    samplesOf w (wholeFrames (n * w) buf) = (List.range (buf.length / (n * w) * n)).map (frameOf w buf) := by
  have hS : buf.length / (n * w) * (n * w) = buf.length / (n * w) * n * w := (Nat.mul_assoc ..).symm
  rw [samplesOf_eq_map, wholeFrames_length, hS, Nat.mul_div_cancel _ hw]
  apply List.map_congr_left
  intro i hi
  show frameOf w (buf.take (buf.length / (n * w) * (n * w))) i = _
  rw [hS]
  exact frameOf_take _ _ _ _ (Rows.mul_add_le_of_lt (List.mem_range.mp hi) w)

theorem range_filter_mod (n c : Nat) (hc : c < n) (m : Nat) :
    (List.range (m * n)).filter (fun i => i % n == c) = (List.range m).map (fun f => f * n + c) := by
  induction m with
  | zero => simp
  | succ m ih =>
    have hblock : (List.range n).filter ((fun i => i % n == c) ∘ fun x => m * n + x) = [c] := by
      rw [List.filter_congr (q := fun x => x == c), List.filter_beq, List.count_range, if_pos hc]
      · rfl
      · intro x hx
        simp [Function.comp, Nat.mul_add_mod_self_right, Nat.mod_eq_of_lt (List.mem_range.mp hx)]
    rw [Nat.succ_mul, List.range_add, List.filter_append, ih, List.filter_map,
      hblock, List.range_succ, List.map_append]
    rfl

theorem everyNth_spec (n c : Nat) (hc : c < n) : ∀ (m : Nat) (ss : List Sample), ss.length = m * n →
    everyNth n c ss = (List.range m).map (fun f => ss[f * n + c]?.getD []) := by
  intro m ss hss
  rw [everyNth, hss, range_filter_mod n c hc m, List.filterMap_map, ← List.filterMap_eq_map]
  apply filterMap_congr'
  intro f hf
  have hlt : f * n + c < ss.length := hss ▸ Rows.mul_add_lt (List.mem_range.mp hf) hc
  simp only [Function.comp_apply, List.getElem?_eq_getElem hlt, Option.getD_some]

/-! ## one block of one stream -/

theorem frame_pos (e : Enc) (hw : 0 < e.width) (hn : 0 < e.nch) : 0 < e.frame := Nat.mul_pos hn hw

theorem length_div_frame {e : Enc} (hw : 0 < e.width) (hn : 0 < e.nch) {buf : List Byte} {m : Nat}
    (hl : buf.length = m * e.frame) : buf.length / e.frame = m := by
  rw [hl, Nat.mul_div_cancel _ (frame_pos e hw hn)]

theorem decodeOne_length (e : Enc) (buf : List Byte) : (decodeOne e buf).length = e.chans := by
  unfold decodeOne
  simp only
  by_cases h : (wholeFrames e.frame buf).isEmpty = true
  · rw [if_pos h, List.length_replicate]
  · rw [if_neg h]
    by_cases h1 : e.chans > 1
    · rw [if_pos h1, List.length_map, List.length_range]
    · rw [if_neg h1]
      exact Nat.le_antisymm (Nat.le_max_left 1 e.nch) (Nat.le_of_not_lt h1)

theorem decodeOne_empty (e : Enc) (buf : List Byte) (h : buf.length / e.frame = 0) :
    decodeOne e buf = List.replicate e.chans [] := by
  unfold decodeOne
  simp [(wholeFrames_eq_nil_iff e.frame buf).mpr h]

theorem decodeOne_short (e : Enc) (buf : List Byte) (h : buf.length < e.frame) :
    decodeOne e buf = List.replicate e.chans [] :=
  decodeOne_empty e buf (Nat.div_eq_of_lt h)

/-- what `decode_frame` yields for one stream; a trailing partial frame is not looked at. -/
theorem decodeOne_eq {e : Enc} (hw : 0 < e.width) (hn : 0 < e.nch) (buf : List Byte) :
    decodeOne e buf = (List.range e.nch).map fun c =>
      (List.range (buf.length / e.frame)).map fun f => frameOf e.width buf (f * e.nch + c) := by
  have hch : e.chans = e.nch := Nat.max_eq_right hn
  have hss := samplesOf_wholeFrames hw e.nch buf
  rw [← Enc.frame] at hss
  unfold decodeOne
  simp only [hss, hch, List.isEmpty_iff, wholeFrames_eq_nil_iff]
  by_cases h : buf.length / e.frame = 0
  · simp [h, List.map_const']
  · rw [if_neg h]
    by_cases h1 : e.nch > 1
    · rw [if_pos h1]
      apply List.map_congr_left
      intro c hc
      rw [everyNth_spec e.nch c (List.mem_range.mp hc) (buf.length / e.frame) _ (by simp)]
      apply List.map_congr_left
      intro f hf
      simp [Rows.mul_add_lt (List.mem_range.mp hf) (List.mem_range.mp hc)]
    · have hn1 : e.nch = 1 := Nat.le_antisymm (Nat.le_of_not_lt h1) hn
      simp [hn1]

theorem decodeOne_channel_length (e : Enc) (hw : 0 < e.width) (hn : 0 < e.nch) (buf : List Byte) :
    ∀ ch ∈ decodeOne e buf, ch.length = buf.length / e.frame := by
  rw [decodeOne_eq hw hn]
  intro ch hch
  obtain ⟨c, _, rfl⟩ := List.mem_map.mp hch
  simp

theorem decodeOne_sample_length (e : Enc) (hw : 0 < e.width) (hn : 0 < e.nch) (buf : List Byte) :
    ∀ ch ∈ decodeOne e buf, ∀ s ∈ ch, s.length = e.width := by
  rw [decodeOne_eq hw hn]
  intro ch hch s hs
  obtain ⟨c, hc, rfl⟩ := List.mem_map.mp hch
  obtain ⟨f, hf, rfl⟩ := List.mem_map.mp hs
  apply frameOf_length
  -- sample `f * nch + c` lies within the `m * nch` samples of the `m` whole frames
  have h := Rows.mul_add_le_of_lt (Rows.mul_add_lt (List.mem_range.mp hf) (List.mem_range.mp hc)) e.width
  rw [Nat.mul_assoc] at h
  exact Nat.le_trans h (Nat.div_mul_le_self _ _)

def mapSamples (g : Sample → Sample) (w : Nat) (l : List Byte) : List Byte := ((samplesOf w l).map g).flatten

theorem mapSamples_frame {g : Sample → Sample} {w n : Nat} (hw : 0 < w) {d : List Byte} {f : Nat}
    (h : f * (n * w) + n * w ≤ d.length) :
    mapSamples g w (frameOf (n * w) d f) = (List.range n).flatMap fun c => g (frameOf w d (f * n + c)) := by
  unfold mapSamples
  rw [samplesOf_eq_map, frameOf_length _ _ _ h, Nat.mul_div_cancel _ hw, List.map_map, ← List.flatMap_def]
  apply flatMap_congr'
  intro c hc
  exact congrArg g (Rows.row_row (List.mem_range.mp hc))

theorem mapSamples_wholeFrames {g : Sample → Sample} {e : Enc} (hw : 0 < e.width) (buf : List Byte) :
    mapSamples g e.width (wholeFrames e.frame buf)
      = (List.range (buf.length / e.frame)).flatMap fun f => mapSamples g e.width (frameOf e.frame buf f) := by
  unfold Enc.frame
  rw [mapSamples, samplesOf_wholeFrames hw, List.map_map, ← List.flatMap_def, ← flatMap_double]
  apply flatMap_congr'
  intro f hf
  rw [mapSamples_frame hw
    (Nat.le_trans (Rows.mul_add_le_of_lt (List.mem_range.mp hf) _) (Nat.div_mul_le_self _ _))]
  rfl

theorem mapSamples_id (w k : Nat) (hw : 0 < w) (l : List Byte) (hl : l.length = k * w) :
    mapSamples (gOf false) w l = l := by
  have : gOf false = id := rfl
  rw [mapSamples, this, List.map_id, samplesOf_eq_map, ← List.flatMap_def, hl, Nat.mul_div_cancel _ hw]
  exact (Rows.flatMap_row w l k).trans (List.take_of_length_le (Nat.le_of_eq hl))

/-! ## one output frame -/

def slot (w : Nat) (ch : List Sample) (f : Nat) : List (Option Byte) :=
  match ch[f]? with
  | some smp => smp.map some
  | none => List.replicate w none

theorem slot_length {w : Nat} {ch : List Sample} (h : ∀ s ∈ ch, s.length = w) (f : Nat) :
    (slot w ch f).length = w := by
  unfold slot
  split
  · rename_i smp hs
    simp [h smp (List.mem_of_getElem? hs)]
  · simp

theorem encodeBlock_slots (w : Nat) (chs : List (List Sample)) :
    encodeBlock w chs
      = (List.range ((chs.map List.length).foldl max 0)).flatMap fun f => chs.flatMap fun ch => slot w ch f := by
  unfold encodeBlock slot
  rfl

theorem decodeOne_frame {e : Enc} (hw : 0 < e.width) (hn : 0 < e.nch) (g : Sample → Sample)
    {buf : List Byte} {f : Nat} (hf : f < buf.length / e.frame) :
    ((decodeOne e buf).map (·.map g)).flatMap (fun ch => slot e.width ch f)
      = (mapSamples g e.width (frameOf e.frame buf f)).map some := by
  have hfr : f * e.frame + e.frame ≤ buf.length :=
    Nat.le_trans (Rows.mul_add_le_of_lt hf _) (Nat.div_mul_le_self _ _)
  rw [decodeOne_eq hw hn, List.map_map, List.flatMap_map]
  show _ = (mapSamples g e.width (frameOf (e.nch * e.width) buf f)).map some
  rw [mapSamples_frame hw hfr, List.map_flatMap]
  apply flatMap_congr'
  intro c _
  simp [slot, hf]

/-- frame `f` of one source's block: its `n` samples, each mapped, in channel order. -/
theorem source_frame (e : Enc) (hw : 0 < e.width) (hn : 0 < e.nch) (g : Sample → Sample)
    (buf : List Byte) (m : Nat) (hl : buf.length = m * e.frame) (f : Nat) (hf : f < m) :
    ((decodeOne e buf).map (·.map g)).flatMap (fun ch => slot e.width ch f)
      = (mapSamples g e.width ((buf.drop (f * e.frame)).take e.frame)).map some :=
  decodeOne_frame hw hn g ((length_div_frame hw hn hl).symm ▸ hf)

theorem encodeBlock_rect (w m : Nat) (chs : List (List Sample)) (hne : chs ≠ [])
    (h : ∀ ch ∈ chs, ch.length = m) :
    encodeBlock w chs = (List.range m).flatMap fun f => chs.flatMap fun ch => slot w ch f := by
  rw [encodeBlock_slots, foldl_max_const m _ 0 (Nat.zero_le _) (by simpa using hne)]
  intro x hx
  obtain ⟨ch, hch, rfl⟩ := List.mem_map.mp hx
  exact h ch hch

theorem encodeBlock_ragged (w : Nat) (chs : List (List Sample)) (hne : chs ≠ [])
    (hs : ∀ ch ∈ chs, ∀ s ∈ ch, s.length = w) (R : Nat) (hR : ∀ ch ∈ chs, R ≤ ch.length) :
    ∃ P rest, (∃ ch ∈ chs, ch.length = R + P) ∧
      encodeBlock w chs = ((List.range R).flatMap fun f => chs.flatMap fun ch => slot w ch f) ++ rest ∧
      rest.length = P * (chs.length * w) := by
  obtain ⟨M, hmem, hmax⟩ := foldl_max_eq (chs.map List.length) (by simpa using hne) 0
  rw [Nat.zero_max] at hmax
  obtain ⟨ch, hch, rfl⟩ := List.mem_map.mp hmem
  have hM := Nat.add_sub_cancel' (hR ch hch)
  refine ⟨ch.length - R, ((List.range (ch.length - R)).map (R + ·)).flatMap fun f => chs.flatMap fun ch => slot w ch f,
    ⟨ch, hch, hM.symm⟩, ?_, ?_⟩
  · rw [encodeBlock_slots, ← List.flatMap_append, ← List.range_add, hM, hmax]
  · rw [Rows.flatMap_length (w := chs.length * w), List.length_map, List.length_range]
    intro f _
    exact Rows.flatMap_length fun c hc => slot_length (hs c hc) f

/-! ## one block of any number of sources

The sources are an arbitrary list `l : List α` read through `enc`, `buf` and `g` (the per-sample map),
so that the same statements serve `Enc × List Byte`, `Src × List Byte` and a single stream. -/

section block
variable {α : Type} (enc : α → Enc) (buf : α → List Byte) (g : α → Sample → Sample)

/-- the channels `decode_frame` returns for one block, in source order, every sample passed through
its source's `g`. -/
def blockChans (l : List α) : List (List Sample) :=
  (l.map fun x => (decodeOne (enc x) (buf x)).map (·.map (g x))).flatten

theorem blockChans_singleton (x : α) :
    blockChans enc buf g [x] = (decodeOne (enc x) (buf x)).map (·.map (g x)) := by
  simp [blockChans]

theorem blockChans_length (l : List α) :
    (blockChans enc buf g l).length = (l.map fun x => (enc x).chans).sum := by
  simp [blockChans, List.length_flatten, List.map_map, Function.comp_def, decodeOne_length]

variable {enc buf g} {w : Nat} {l : List α}

theorem mem_blockChans {ch : List Sample} (h : ch ∈ blockChans enc buf g l) :
    ∃ x ∈ l, ∃ ch0 ∈ decodeOne (enc x) (buf x), ch = ch0.map (g x) := by
  simp only [blockChans, List.mem_flatten, List.mem_map] at h
  obtain ⟨_, ⟨x, hx, rfl⟩, hch⟩ := h
  obtain ⟨ch0, h0, rfl⟩ := List.mem_map.mp hch
  exact ⟨x, hx, ch0, h0, rfl⟩

theorem blockChans_ne_nil (hne : l ≠ []) : blockChans enc buf g l ≠ [] := by
  obtain ⟨x, rest, rfl⟩ := List.exists_cons_of_ne_nil hne
  intro e
  have := congrArg List.length e
  simp only [blockChans, List.map_cons, List.flatten_cons, List.length_append, List.length_map,
    decodeOne_length, List.length_nil, Enc.chans] at this
  exact Nat.ne_of_gt (Nat.lt_of_lt_of_le (Nat.le_max_left 1 _) (Nat.le_add_right ..)) this

theorem blockChans_channel_length (hw : 0 < w) (hs : ∀ x ∈ l, (enc x).width = w ∧ 0 < (enc x).nch)
    {ch : List Sample} (hch : ch ∈ blockChans enc buf g l) :
    ∃ x ∈ l, ch.length = (buf x).length / (enc x).frame := by
  obtain ⟨x, hx, ch0, h0, rfl⟩ := mem_blockChans hch
  obtain ⟨h1, h2⟩ := hs x hx
  exact ⟨x, hx, by rw [List.length_map, decodeOne_channel_length _ (h1 ▸ hw) h2 _ ch0 h0]⟩

theorem block_frame (hw : 0 < w) (hs : ∀ x ∈ l, (enc x).width = w ∧ 0 < (enc x).nch) {f : Nat}
    (hf : ∀ x ∈ l, f < (buf x).length / (enc x).frame) :
    (blockChans enc buf g l).flatMap (fun ch => slot w ch f)
      = (l.flatMap fun x => mapSamples (g x) w (frameOf (enc x).frame (buf x) f)).map some := by
  rw [blockChans, ← List.flatMap_def, List.flatMap_assoc, List.map_flatMap]
  apply flatMap_congr'
  intro x hx
  obtain ⟨h1, h2⟩ := hs x hx
  have := decodeOne_frame (h1 ▸ hw) h2 (g x) (hf x hx)
  rwa [h1] at this

variable (enc buf g)

theorem block_exact (hw : 0 < w) (hne : l ≠ []) (hs : ∀ x ∈ l, (enc x).width = w ∧ 0 < (enc x).nch) {m : Nat}
    (hm : ∀ x ∈ l, (buf x).length / (enc x).frame = m) :
    encodeBlock w (blockChans enc buf g l)
      = ((List.range m).flatMap fun f => l.flatMap fun x =>
          mapSamples (g x) w (frameOf (enc x).frame (buf x) f)).map some := by
  rw [encodeBlock_rect w m _ (blockChans_ne_nil hne), List.map_flatMap]
  · apply flatMap_congr'
    intro f hf
    exact block_frame hw hs fun x h => hm x h ▸ List.mem_range.mp hf
  · intro ch hch
    obtain ⟨x, hx, hl⟩ := blockChans_channel_length hw hs hch
    rw [hl, hm x hx]

/-- the shortest source ends in the block: `R` frames as in `block_exact`, then `rest`, `P` padded
frames up to the longest source of the block. -/
theorem block_ragged (hw : 0 < w) (hne : l ≠ []) (hg : ∀ x s, (g x s).length = s.length)
    (hs : ∀ x ∈ l, (enc x).width = w ∧ 0 < (enc x).nch) {R : Nat}
    (hR : ∀ x ∈ l, R ≤ (buf x).length / (enc x).frame) :
    ∃ P rest, encodeBlock w (blockChans enc buf g l)
        = ((List.range R).flatMap fun f => l.flatMap fun x =>
            mapSamples (g x) w (frameOf (enc x).frame (buf x) f)).map some ++ rest ∧
      rest.length = P * ((blockChans enc buf g l).length * w) ∧
      ∃ x ∈ l, R + P = (buf x).length / (enc x).frame := by
  obtain ⟨P, rest, ⟨ch, hch, hP⟩, heq, hlen⟩ := encodeBlock_ragged w (blockChans enc buf g l) (blockChans_ne_nil hne)
    (fun ch hch s hsm => by
      obtain ⟨x, hx, ch0, h0, rfl⟩ := mem_blockChans hch
      obtain ⟨s0, hs0, rfl⟩ := List.mem_map.mp hsm
      rw [hg, decodeOne_sample_length _ ((hs x hx).1 ▸ hw) (hs x hx).2 _ ch0 h0 s0 hs0, (hs x hx).1])
    R (fun ch hch => by
      obtain ⟨x, hx, hl⟩ := blockChans_channel_length hw hs hch
      exact hl ▸ hR x hx)
  -- the longest channel belongs to some source
  obtain ⟨x, hx, hl⟩ := blockChans_channel_length hw hs hch
  refine ⟨P, rest, ?_, hlen, x, hx, hP.symm.trans hl⟩
  rw [heq, List.map_flatMap]
  refine congrArg (· ++ rest) ?_
  apply flatMap_congr'
  intro f hf
  exact block_frame hw hs fun x h => Nat.lt_of_lt_of_le (List.mem_range.mp hf) (hR x h)

end block

/-- **C12 (one block, any number of sources).** Every source delivers `m ≥ 1` whole frames (`nch ≥ 1`
interleaved channels each, one common sample width, either byte order). Decoding, the per-channel
byte-order steps and interleaving give, frame by frame, the sources' frames in source order, each with
its channels in channel order, every sample byte-reversed exactly when its source is big-endian. -/
theorem C12_block_general (w : Nat) (hw : 0 < w) (srcs : List (Enc × List Byte)) (hne : srcs ≠ []) (m : Nat) (hm : 0 < m)
    (hs : ∀ s ∈ srcs, s.1.width = w ∧ 0 < s.1.nch ∧ s.2.length = m * s.1.frame) :
    encodeBlock w ((srcs.map fun s => (decodeOne s.1 s.2).map (·.map (gOf s.1.big))).flatten)
      = ((List.range m).flatMap fun f => srcs.flatMap fun s =>
          mapSamples (gOf s.1.big) w ((s.2.drop (f * s.1.frame)).take s.1.frame)).map some :=
  block_exact (α := Enc × List Byte) (·.1) (·.2) (fun s => gOf s.1.big) hw hne
    (fun s h => ⟨(hs s h).1, (hs s h).2.1⟩) fun s h => length_div_frame ((hs s h).1 ▸ hw) (hs s h).2.1 (hs s h).2.2

theorem applySwaps_sources (host : Bool) (dest : Enc) (hd : dest.big = false) :
    ∀ (sb : List (Src × List Byte)),
    applySwaps host dest (sb.map (·.1)) ((sb.map fun x => decodeOne x.1.enc x.2).flatten)
      = (sb.map fun x => (decodeOne x.1.enc x.2).map (·.map (gOf x.1.enc.big))).flatten := by
  intro sb
  have hflags : destFlags dest (sb.map (·.1))
      = sb.flatMap fun x => List.replicate (decodeOne x.1.enc x.2).length x.1.enc.big := by
    simp only [destFlags, List.flatMap_map, decodeOne_length, hd, Bool.bne_false]
  rw [← List.flatMap_def, ← List.flatMap_def, C12_swaps_host_independent, hflags, applyFlags_flatMap]
  -- as many flags as channels
  rw [hflags, List.length_flatMap, List.length_flatMap]
  simp only [List.length_replicate]

/-- the channels of one block of the pipeline after its byte-order steps. -/
abbrev pipeChans (sb : List (Src × List Byte)) : List (List Sample) :=
  blockChans (·.1.enc) (·.2) (fun x => gOf x.1.enc.big) sb

theorem applySwaps_block {host : Bool} {dest : Enc} (hd : dest.big = false) (sb : List (Src × List Byte)) :
    applySwaps host dest (sb.map (·.1)) ((sb.map fun x => decodeOne x.1.enc x.2).flatten) = pipeChans sb :=
  applySwaps_sources host dest hd sb

/-- **C12 (one block of the pipeline).** The block the pipeline emits into a little-endian destination
when every source has delivered `m ≥ 1` whole frames is that of `C12_block_general`, for every host. -/
theorem C12_block_pipeline (host : Bool) (dest : Enc) (hd : dest.big = false) (sb : List (Src × List Byte))
    (hne : sb ≠ []) (m : Nat) (hm : 0 < m) (hw : 0 < dest.width)
    (hs : ∀ x ∈ sb, x.1.enc.width = dest.width ∧ 0 < x.1.enc.nch ∧ x.2.length = m * x.1.enc.frame) :
    encodeBlock dest.width (applySwaps host dest (sb.map (·.1)) ((sb.map fun x => decodeOne x.1.enc x.2).flatten))
      = ((List.range m).flatMap fun f => sb.flatMap fun x =>
          mapSamples (gOf x.1.enc.big) dest.width ((x.2.drop (f * x.1.enc.frame)).take x.1.enc.frame)).map some := by
  rw [applySwaps_block hd sb]
  exact block_exact _ _ _ hw hne (fun x h => ⟨(hs x h).1, (hs x h).2.1⟩) fun x h =>
    length_div_frame ((hs x h).1 ▸ hw) (hs x h).2.1 (hs x h).2.2

/-- non-vacuity: big-endian interleaved stereo next to little-endian mono, two frames. -/
example : encodeBlock 2 (applySwaps true ⟨false, 2, 3, true⟩
      [⟨⟨true, 2, 2, true⟩, []⟩, ⟨⟨false, 2, 1, true⟩, []⟩]
      ((decodeOne ⟨true, 2, 2, true⟩ [1, 2, 3, 4, 5, 6, 7, 8]) ++ (decodeOne ⟨false, 2, 1, true⟩ [9, 10, 11, 12])))
    = [2, 1, 4, 3, 9, 10, 6, 5, 8, 7, 11, 12].map some := by decide +kernel

end Smpl.Props.C12
