/-
C01, the writer's side: the file table of a volume, written entry by entry and closed by the end marker.
-/
import Smpl.Props.C01W
import Smpl.Lemmas.Rows

namespace Smpl.Props.C01
open Smpl Smpl.Akai Smpl.Alloc

structure EntryImg where
  nameRaw : Bytes          -- 12 AKAI character codes
  ftype : Nat
  size : Nat
  start : Nat
  fill : Nat → Nat         -- bytes 12..15, 22, 23

def EntryImg.byteAt (e : EntryImg) (i : Nat) : Nat :=
  if i < 12 then e.nameRaw.getD i 0
  else if i = 16 then e.ftype
  else if 17 ≤ i ∧ i < 20 then digit e.size (i - 17)
  else if 20 ≤ i ∧ i < 22 then digit e.start (i - 20)
  else e.fill i

def EntryImg.bytes (e : EntryImg) : Bytes := (List.range 24).map e.byteAt

theorem EntryImg.bytes_length (e : EntryImg) : e.bytes.length = 24 := by simp [EntryImg.bytes]

structure EntryImg.Ok (p : Part) (e : EntryImg) (name : Smpl.Names.Name) : Prop where
  len : e.nameRaw.length = 12
  codes : ∀ b ∈ e.nameRaw, b ≤ 0x28
  name : akaiStr e.nameRaw = some name
  ftype : validFileType e.ftype = true
  size : e.size < 16777216
  start : 0 < e.start ∧ e.start < 65536
  path : ∃ path, getPath p.links SAT_ENTRIES e.start = .ok path

def EntryImg.toEntry (e : EntryImg) (name : Smpl.Names.Name) : FileEntry := ⟨name, e.ftype, e.size, e.start⟩

theorem getD_le {l : Bytes} {m : Nat} (h : ∀ b ∈ l, b ≤ m) (i : Nat) : l.getD i 0 ≤ m := by
  rw [List.getD_eq_getElem?_getD]
  cases hi : l[i]? with
  | none => exact Nat.zero_le m
  | some b => exact h b (List.mem_of_getElem? hi)

theorem parseEntry_written {p : Part} {e : EntryImg} {name : Smpl.Names.Name} (hok : e.Ok p name)
    (pre rest : Bytes) :
    parseEntry p (pre ++ (e.bytes ++ rest)) pre.length = .entry (e.toEntry name) ∧
    uN (pre ++ (e.bytes ++ rest)) (pre.length + 8) 2 ≠ some TABLE_END := by
  obtain ⟨path, hpath⟩ := hok.path
  have F : ∀ k n {ds} v, k + n ≤ 24 → (List.range' k n).map e.byteAt = ds → leVal ds = v →
      uN (pre ++ (e.bytes ++ rest)) (pre.length + k) n = some v := uN_table pre rest 24 e.byteAt
  have hraw : rd (pre ++ (e.bytes ++ rest)) pre.length 12 = some e.nameRaw :=
    (rd_table pre rest 24 e.byteAt 0 12 (by decide)).trans (congrArg some (map_getD_range hok.len))
  constructor
  · simp only [parseEntry, hraw, F 16 1 e.ftype (by decide) rfl rfl, F 17 3 _ (by decide) rfl (le3 hok.size),
      F 20 2 _ (by decide) rfl (le2 hok.start.2), hok.name, hok.ftype, hpath, Bool.not_true, Bool.false_eq_true,
      if_false]
    rfl
  · -- bytes 8 and 9 are name codes, at most 0x28: the word is not the end marker 0xD747
    rw [F 8 2 (ds := [e.nameRaw.getD 8 0, e.nameRaw.getD 9 0]) _ (by decide) rfl rfl]
    have h8 := getD_le hok.codes 8
    have h9 := getD_le hok.codes 9
    simp only [leVal, TABLE_END, ne_eq, Option.some.injEq]
    omega

/-- **C01 (written directory).** Well-formed 24-byte entries followed by a slot that carries the end
marker `0xD747` parse to exactly those entries in order — whatever follows the marker, and whatever
precedes the table when it is read from slot `i`. -/
theorem fileTable_written (p : Part) (tail : Bytes) (htail : uN tail 8 2 = some TABLE_END) :
    ∀ (es : List (EntryImg × Smpl.Names.Name)) (pre : Bytes) (i fuel : Nat),
      pre.length = i * FILE_ENTRY_BYTES → es.length < fuel → (∀ x ∈ es, x.1.Ok p x.2) →
      fileTable p (pre ++ (es.flatMap (fun x => x.1.bytes) ++ tail)) fuel i
        = .ok (es.map fun x => x.1.toEntry x.2) := by
  intro es
  induction es with
  | nil =>
    intro pre i fuel hpre hf _
    obtain ⟨f, rfl⟩ := Nat.exists_eq_add_one.mpr (Nat.zero_lt_of_lt hf)
    simp only [fileTable, List.flatMap_nil, List.nil_append, List.map_nil, ← hpre, uN_skip, htail, if_true]
  | cons x es ih =>
    intro pre i fuel hpre hf hok
    obtain ⟨e, name⟩ := x
    obtain ⟨f, rfl⟩ := Nat.exists_eq_add_one.mpr (Nat.zero_lt_of_lt hf)
    have hex : e.Ok p name := hok _ (List.mem_cons_self ..)
    obtain ⟨hpe, hmark⟩ := parseEntry_written hex pre (es.flatMap (fun x => x.1.bytes) ++ tail)
    have hrec := ih (pre ++ e.bytes) (i + 1) f
      (by rw [List.length_append, e.bytes_length, hpre, Nat.succ_mul]; rfl)
      (by simpa using hf) (fun y hy => hok y (List.mem_cons_of_mem _ hy))
    rw [List.append_assoc] at hrec
    -- the marker word of slot `i` lies inside the entry, so it can be read
    obtain ⟨flag, hm⟩ : ∃ flag, uN (pre ++ (e.bytes ++ (es.flatMap (fun x => x.1.bytes) ++ tail))) (pre.length + 8) 2
        = some flag := ⟨_, uN_table pre _ 24 e.byteAt 8 2 _ (by decide) rfl rfl⟩
    simp only [fileTable, List.flatMap_cons, List.append_assoc, ← hpre, hm, hpe, hrec,
      if_neg (fun h : flag = TABLE_END => hmark (h ▸ hm)), List.map_cons, EntryImg.toEntry, hex.start.1, if_true]

theorem table_bytes_length (es : List (EntryImg × Smpl.Names.Name)) :
    (es.flatMap (fun x => x.1.bytes)).length = es.length * FILE_ENTRY_BYTES :=
  Smpl.Rows.flatMap_length fun x _ => x.1.bytes_length

/-- **C01 (written volume).** If the directory chain of a volume entry of the parsed partition resolves
to `dc` inside the partition (from the raw table: `C07_akai_wf`, `C07_akai_dir_run`) and the sectors of
`dc` in order hold a table written as above, the volume is realised with exactly the written entries,
each by `realizeFile` (sample files: `C01_written_sample`), in directory order. -/
theorem C01_written_volume (file : Bytes) (pos letter : Nat) (p : Part) (next : Nat)
    (hp : parsePartition file pos letter = .ok (some (p, next)))
    (v : VolEntry) (hv : v.vtype ≠ 0) (dc : List Nat)
    (hpath : getPath p.links SAT_ENTRIES v.start = .ok dc) (hin : SectorsInside p dc)
    (es : List (EntryImg × Smpl.Names.Name)) (tail : Bytes) (htail : uN tail 8 2 = some TABLE_END)
    (htl : FILE_ENTRY_BYTES ≤ tail.length)
    (hcontent : segment p dc = es.flatMap (fun x => x.1.bytes) ++ tail)
    (hok : ∀ x ∈ es, x.1.Ok p x.2) (programOk : Bytes → Bool) :
    volumes p programOk [v] = .ok [⟨v.name, v.vtype,
      (es.map fun x => x.1.toEntry x.2).filterMap (realizeFile p · programOk), none⟩] := by
  -- the marker slot is a whole slot, so the iteration count `len / 24` exceeds the number of entries
  have hfuel : es.length < (es.flatMap (fun x => x.1.bytes) ++ tail).length / FILE_ENTRY_BYTES := by
    rw [List.length_append, table_bytes_length, Nat.add_comm, Nat.add_mul_div_right _ _ (by decide)]
    exact Nat.lt_add_of_pos_left (Nat.div_pos_iff.mpr ⟨by decide, htl⟩)
  have htab := fileTable_written p tail htail es [] 0 _ rfl hfuel hok
  simp only [volumes, hv, if_false, hpath, C01_prefix_is_segment p dc hin, hcontent]
  rw [List.nil_append] at htab
  rw [htab]

/-- premises satisfiable: a marker slot. -/
example : uN ([0, 0, 0, 0, 0, 0, 0, 0, 0x47, 0xD7] ++ [1, 2, 3]) 8 2 = some TABLE_END := by decide

end Smpl.Props.C01
