import Smpl.Model.Roland

/-! The orphan search of the Roland tree (`perfScan`) reads the performance directory sequentially and
loses its alignment at a name that does not decode; where every name decodes it is the position-based scan. -/

namespace Smpl.Props.C02O
open Smpl.Roland

/-- position-based specification of the scan over `n` slots starting at slot number `i`, byte `pos`. -/
def perfSpec (b : Bytes) (n i pos : Nat) : List Nat :=
  (List.range n).filterMap fun k => if b.getD (pos + 32 * k + 16) 0 == 0x41 then some (i + k) else none

theorem slot_succ (pos k : Nat) : pos + 32 * (k + 1) = pos + 32 + 32 * k := by
  rw [Nat.mul_succ, Nat.add_comm (32 * k), Nat.add_assoc]

theorem perfSpec_succ (b : Bytes) (n i pos : Nat) :
    perfSpec b (n + 1) i pos =
      (if b.getD (pos + 16) 0 == 0x41 then [i] else []) ++ perfSpec b n (i + 1) (pos + 32) := by
  have : ((fun k => if b.getD (pos + 32 * k + 16) 0 == 0x41 then some (i + k) else none) ∘ Nat.succ)
      = fun k => if b.getD (pos + 32 + 32 * k + 16) 0 == 0x41 then some (i + 1 + k) else none :=
    funext fun k => by rw [Function.comp, Nat.succ_eq_add_one, slot_succ, Nat.add_comm k 1, Nat.add_assoc i]
  rw [perfSpec, List.range_succ_eq_map, List.filterMap_cons, List.filterMap_map, this, perfSpec]
  cases b.getD (pos + 16) 0 == 0x41 <;> rfl

/-- When the `n` records from `pos` on lie inside the image and every name
decodes, the sequential scan reports exactly the slots whose record carries the performance type byte. -/
theorem C02_orphan_scan_aligned (b : Bytes) (n i pos : Nat)
    (hlen : pos + 32 * n ≤ b.length)
    (hnames : ∀ k, k < n → (padded ((b.drop (pos + 32 * k)).take 16)).isSome) :
    perfScan (Img.ofBytes b) n i pos = perfSpec b n i pos := by
  induction n generalizing i pos with
  | zero => rfl
  | succ n ih =>
    obtain ⟨nm, hnm⟩ := Option.isSome_iff_exists.mp (hnames 0 (Nat.zero_lt_succ n))
    rw [slot_succ] at hlen
    have ih' := ih (i + 1) (pos + 32) hlen fun k hk => slot_succ pos k ▸ hnames (k + 1) (Nat.succ_lt_succ hk)
    have hrec : pos + 32 ≤ b.length := Nat.le_trans (Nat.le_add_right _ _) hlen
    have h16 : (Img.ofBytes b).rd pos 16 = some ((b.drop pos).take 16) :=
      if_pos (Nat.le_trans (Nat.add_le_add_left (by decide) pos) hrec)
    have h32 : (Img.ofBytes b).rd (pos + 16) 16 = some ((b.drop (pos + 16)).take 16) :=
      if_pos (Nat.le_trans (Nat.le_of_eq (Nat.add_assoc pos 16 16)) hrec)
    have hty : ((b.drop (pos + 16)).take 16).getD 0 0 = b.getD (pos + 16) 0 := by
      rw [List.getD_eq_getElem?_getD, List.getD_eq_getElem?_getD, List.getElem?_take_of_lt (by decide),
        List.getElem?_drop, Nat.add_zero]
    rw [perfSpec_succ, perfScan, h16]
    simp only [show padded ((b.drop pos).take 16) = some nm from hnm, h32, hty, ih']

/-- On an image whose 512 performance directory names all decode, the orphan search sees slot `k` at
`dirOff + 32·k` - the reading the tree theorems (and the property) use. -/
theorem C02_orphans_position_based (b : Bytes)
    (hlen : dirOff .perf + 32 * maxNum .perf ≤ b.length)
    (hnames : ∀ k, k < maxNum .perf → (padded ((b.drop (dirOff .perf + 32 * k)).take 16)).isSome) :
    perfIndices (Img.ofBytes b) = perfSpec b (maxNum .perf) 0 (dirOff .perf) :=
  C02_orphan_scan_aligned b _ 0 _ hlen hnames

/-- non-vacuity: a two-record directory (`A`, performance; `B`, not) is scanned as `[0]`. -/
example :
    let rec0 : Bytes := [65] ++ List.replicate 15 0 ++ [0x41] ++ List.replicate 15 0
    let rec1 : Bytes := [66] ++ List.replicate 15 0 ++ [0x00] ++ List.replicate 15 0
    perfScan (Img.ofBytes (rec0 ++ rec1)) 2 0 0 = [0] := by decide +kernel

end Smpl.Props.C02O
