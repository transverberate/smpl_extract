/-
C12 — a stereo pair of any two lengths: the two-source case of `run_ragged`.
-/
import Smpl.Props.C12M

namespace Smpl.Props.C12
open Smpl.Transcode

/-- `out` starts with the first `m` interleaved frames of `a` and `b` and holds `T` frames. -/
def PairOut (w : Nat) (a b : List Byte) (m T : Nat) (out : List (Option Byte)) : Prop :=
  (∃ rest, out = (interleave2 w a b m).map some ++ rest) ∧ out.length = T * (2 * w)

theorem interleave2_length {w : Nat} {a b : List Byte} {m : Nat} (ha : m * w ≤ a.length) (hb : m * w ≤ b.length) :
    (interleave2 w a b m).length = m * (2 * w) := by
  rw [interleave2, Rows.flatMap_length (w := 2 * w), List.length_range]
  intro f hf
  have := Rows.mul_add_le_of_lt (List.mem_range.mp hf) w
  rw [List.length_append, frameOf_length w a f (Nat.le_trans this ha), frameOf_length w b f (Nat.le_trans this hb)]
  exact (Nat.two_mul w).symm

theorem pipeLoop_pair_any (w nf : Nat) (sgA sgB : Bool) (dest : Enc) (hw : 0 < w) (hnf : 0 < nf)
    (hdw : dest.width = w) (hdb : dest.big = false) (da db : List Byte) :
    ∀ (fuel Fa Fb : Nat) (a b : List Byte), a.length = Fa * w → b.length = Fb * w → min Fa Fb < fuel →
      ∃ T, min Fa Fb ≤ T ∧ T ≤ max Fa Fb ∧
        PairOut w a b (min Fa Fb) T
          (pipeLoop false dest [⟨monoEnc w sgA, da⟩, ⟨monoEnc w sgB, db⟩] [nf * w, nf * w] fuel [a, b]).flatten := by
  intro fuel Fa Fb a b ha hb hF
  subst hdw
  have hA := framesLeft_mono hw sgA da ha
  have hB := framesLeft_mono hw sgB db hb
  obtain ⟨P, rest, hflat, hlen, x, hx, hP⟩ := run_ragged false hdb hw hnf (R := min Fa Fb)
    (st := pairSt dest.width sgA sgB da db a b) pairSt_wide
    (forall_pairSt (hA ▸ Nat.min_le_left ..) (hB ▸ Nat.min_le_right ..))
    (by
      rcases Nat.le_total Fa Fb with h | h
      · exact ⟨_, List.mem_cons_self .., by rw [hA, Nat.min_eq_left h]⟩
      · exact ⟨_, List.mem_cons_of_mem _ (List.mem_cons_self ..), by rw [hB, Nat.min_eq_right h]⟩) hF
  have hmax : ∀ x ∈ pairSt dest.width sgA sgB da db a b, framesLeft x ≤ max Fa Fb :=
    forall_pairSt (hA ▸ Nat.le_max_left ..) (hB ▸ Nat.le_max_right ..)
  have hma : min Fa Fb * dest.width ≤ a.length := ha ▸ Nat.mul_le_mul_right _ (Nat.min_le_left ..)
  have hmb : min Fa Fb * dest.width ≤ b.length := hb ▸ Nat.mul_le_mul_right _ (Nat.min_le_right ..)
  rw [run_pair, expected_pair hw sgA sgB da db hma hmb] at hflat
  refine ⟨min Fa Fb + P, Nat.le_add_right .., Nat.le_trans hP (hmax x hx), ⟨rest, hflat⟩, ?_⟩
  have hC : chanCount (pairSt dest.width sgA sgB da db a b) = 2 := rfl
  rw [hflat, List.length_append, List.length_map, interleave2_length hma hmb, hlen, hC, ← Nat.add_mul]

/-- **C12 (stereo pair of any two lengths, through `make_transcoder`).** A left mono stream of `Fa`
frames and a right one of `Fb`: the output starts with the `min Fa Fb` interleaved frames and holds
`T` frames, `min Fa Fb ≤ T ≤ max Fa Fb`, for every internal buffer size `B`. -/
theorem C12_pair_any (w B Fa Fb : Nat) (sgA sgB sgD : Bool) (hw : 0 < w) (a b : List Byte)
    (ha : a.length = Fa * w) (hb : b.length = Fb * w) :
    ∃ blocks T, transcode false B ⟨false, w, 2, sgD⟩ [⟨monoEnc w sgA, a⟩, ⟨monoEnc w sgB, b⟩] = .ok blocks ∧
      min Fa Fb ≤ T ∧ T ≤ max Fa Fb ∧ PairOut w a b (min Fa Fb) T blocks.flatten := by
  obtain ⟨T, h1, h2, h3⟩ := pipeLoop_pair_any w _ sgA sgB ⟨false, w, 2, sgD⟩ hw (numFrames_pos B _) rfl rfl a b
    (0 + a.length + b.length + 1) Fa Fb a b ha hb
    (Nat.lt_of_le_of_lt (Nat.min_le_left ..) (lt_fuel_pair hw ha b))
  exact ⟨_, T, transcode_pair, h1, h2, run_pair .. ▸ h3⟩

/-- sources of equal length: exactly that many frames. -/
theorem C12_pair_any_equal (w F T : Nat) (a b : List Byte) (out : List (Option Byte))
    (h1 : min F F ≤ T) (h2 : T ≤ max F F) (h : PairOut w a b (min F F) T out)
    (ha : a.length = F * w) (hb : b.length = F * w) :
    out = (interleave2 w a b F).map some := by
  rw [Nat.min_self] at h1 h
  rw [Nat.max_self] at h2
  obtain ⟨⟨rest, hrest⟩, hlen⟩ := h
  rw [hrest, List.length_append, List.length_map,
    interleave2_length (Nat.le_of_eq ha.symm) (Nat.le_of_eq hb.symm), Nat.le_antisymm h2 h1] at hlen
  have : rest = [] := List.eq_nil_of_length_eq_zero (Nat.add_eq_left.mp hlen)
  rw [hrest, this, List.append_nil]

/-- premises satisfiable: a 3-frame left and a 1-frame right stream, blocks of two frames; the output
has 2 frames (between 1 and 3), the second padded. -/
example : (match transcode false 4 ⟨false, 2, 2, true⟩ [⟨monoEnc 2 true, [1, 2, 3, 4, 5, 6]⟩, ⟨monoEnc 2 true, [7, 8]⟩] with
    | .ok bl => bl.flatten
    | .error _ => []) = [some 1, some 2, some 7, some 8, some 3, some 4, none, none] := by decide +kernel

end Smpl.Props.C12
