/-
C12 — the block loop for any number of sources, on a state of (source, rest of its data) pairs.
`run_ragged` says what comes out for sources of any lengths; equal lengths, a pair and a single stream
are its special cases.
-/
import Smpl.Props.C12G

namespace Smpl.Props.C12
open Smpl.Transcode

abbrev St := List (Src × List Byte)

/-- the frame-wise interleaving of `R` frames of every source of the state. -/
def expected (w : Nat) (st : St) (R : Nat) : List (Option Byte) :=
  ((List.range R).flatMap fun f => st.flatMap fun x =>
    mapSamples (gOf x.1.enc.big) w ((x.2.drop (f * x.1.enc.frame)).take x.1.enc.frame)).map some

def advance (nf : Nat) (st : St) : St := st.map fun x => (x.1, x.2.drop (nf * x.1.enc.frame))

/-- what one `decode_frame` reads: the next `nf` frames of every source, or what is left of it. -/
def block (nf : Nat) (st : St) : St := st.map fun x => (x.1, x.2.take (nf * x.1.enc.frame))

/-- `pipeLoop` on a state: what `PipelineTranscoder.__next__` carries from one block to the next. -/
def run (host : Bool) (dest : Enc) (nf fuel : Nat) (st : St) : List (List (Option Byte)) :=
  pipeLoop host dest (st.map (·.1)) (st.map fun x => nf * x.1.enc.frame) fuel (st.map (·.2))

def framesLeft (x : Src × List Byte) : Nat := x.2.length / x.1.enc.frame

def Wide (w : Nat) (st : St) : Prop := ∀ x ∈ st, x.1.enc.width = w ∧ 0 < x.1.enc.nch

def Uniform (w : Nat) (st : St) (R : Nat) : Prop :=
  ∀ x ∈ st, x.1.enc.width = w ∧ 0 < x.1.enc.nch ∧ x.2.length = R * x.1.enc.frame

/-- `make_transcoder`'s `total_num_channels`. -/
def chanCount (st : St) : Nat := (st.map fun x => x.1.enc.chans).sum

theorem pipeChans_length (sb : St) : (pipeChans sb).length = chanCount sb := blockChans_length ..

theorem mem_block {nf : Nat} {st : St} {y : Src × List Byte} :
    y ∈ block nf st ↔ ∃ x ∈ st, (x.1, x.2.take (nf * x.1.enc.frame)) = y := List.mem_map

theorem mem_advance {nf : Nat} {st : St} {y : Src × List Byte} :
    y ∈ advance nf st ↔ ∃ x ∈ st, (x.1, x.2.drop (nf * x.1.enc.frame)) = y := List.mem_map

theorem chanCount_block (nf : Nat) (st : St) : chanCount (block nf st) = chanCount st := by
  simp only [chanCount, block, List.map_map]; rfl

theorem chanCount_advance (nf : Nat) (st : St) : chanCount (advance nf st) = chanCount st := by
  simp only [chanCount, advance, List.map_map]; rfl

theorem Wide.block {w : Nat} {st : St} (h : Wide w st) (nf : Nat) : Wide w (block nf st) := by
  intro y hy
  obtain ⟨x, hx, rfl⟩ := mem_block.mp hy
  exact h x hx

theorem Wide.advance {w : Nat} {st : St} (h : Wide w st) (nf : Nat) : Wide w (advance nf st) := by
  intro y hy
  obtain ⟨x, hx, rfl⟩ := mem_advance.mp hy
  exact h x hx

theorem Wide.frame_pos {w : Nat} {st : St} (h : Wide w st) (hw : 0 < w) {x} (hx : x ∈ st) : 0 < x.1.enc.frame :=
  C12.frame_pos _ ((h x hx).1 ▸ hw) (h x hx).2

theorem framesLeft_block (nf : Nat) (x : Src × List Byte) (hfr : 0 < x.1.enc.frame) :
    framesLeft (x.1, x.2.take (nf * x.1.enc.frame)) = min nf (framesLeft x) := by
  simp only [framesLeft, List.length_take]
  rcases Nat.le_total (nf * x.1.enc.frame) x.2.length with h | h
  · rw [Nat.min_eq_left h, Nat.mul_div_cancel _ hfr, Nat.min_eq_left ((Nat.le_div_iff_mul_le hfr).mpr h)]
  · rw [Nat.min_eq_right h, Nat.min_eq_right]
    exact Nat.le_trans (Nat.div_le_div_right h) (Nat.le_of_eq (Nat.mul_div_cancel _ hfr))

theorem framesLeft_of_mem_block {w : Nat} (hw : 0 < w) {st : St} (hW : Wide w st) {nf : Nat} {y : Src × List Byte}
    (hy : y ∈ block nf st) : ∃ x ∈ st, framesLeft y = min nf (framesLeft x) := by
  obtain ⟨x, hx, rfl⟩ := mem_block.mp hy
  exact ⟨x, hx, framesLeft_block nf x (hW.frame_pos hw hx)⟩

theorem framesLeft_advance (nf : Nat) (x : Src × List Byte) :
    framesLeft (x.1, x.2.drop (nf * x.1.enc.frame)) = framesLeft x - nf := by
  simp only [framesLeft, List.length_drop]
  rw [Nat.mul_comm, Nat.sub_mul_div]

theorem expected_eq (w : Nat) (st : St) (R : Nat) : expected w st R =
    ((List.range R).flatMap fun f => st.flatMap fun x =>
      mapSamples (gOf x.1.enc.big) w (frameOf x.1.enc.frame x.2 f)).map some := rfl

theorem expected_zero (w : Nat) (st : St) : expected w st 0 = [] := rfl

theorem expected_block {w nf m : Nat} (st : St) (h : m ≤ nf) : expected w (block nf st) m = expected w st m := by
  simp only [expected_eq, block, List.flatMap_map]
  refine congrArg (List.map some) ?_
  apply flatMap_congr'
  intro f hf
  apply flatMap_congr'
  intro x _
  rw [frameOf_take _ _ _ _ (Rows.mul_add_le_of_lt (Nat.lt_of_lt_of_le (List.mem_range.mp hf) h) _)]

theorem expected_add (w nf : Nat) (st : St) (k : Nat) :
    expected w st (nf + k) = expected w st nf ++ expected w (advance nf st) k := by
  simp only [expected_eq, advance, List.flatMap_map]
  rw [← List.map_append, List.range_add, List.flatMap_append, List.flatMap_map]
  refine congrArg (List.map some) (congrArg _ ?_)
  apply flatMap_congr'
  intro f _
  apply flatMap_congr'
  intro x _
  rw [frameOf_drop, Nat.add_comm]

theorem expected_split (w nf : Nat) (st : St) (R m : Nat) (hm : m ≤ R) (hmn : m ≤ nf)
    (hrest : m < R → m = nf) :
    expected w st R =
      expected w (st.map fun x => (x.1, x.2.take (nf * x.1.enc.frame))) m ++ expected w (advance nf st) (R - m) := by
  show _ = expected w (block nf st) m ++ _
  rw [expected_block st hmn]
  rcases Nat.lt_or_ge m R with h | h
  · rw [← hrest h, ← expected_add, Nat.add_sub_cancel' hm]
  · rw [Nat.sub_eq_zero_of_le h, expected_zero, List.append_nil, Nat.le_antisymm hm h]

section loop
variable {dest : Enc} {nf fuel : Nat} {st : St}

theorem run_succ (host : Bool) (dest : Enc) (nf fuel : Nat) (st : St) :
    run host dest nf (fuel + 1) st =
      if (((block nf st).map fun x => decodeOne x.1.enc x.2).flatten).any List.isEmpty then []
      else encodeBlock dest.width (applySwaps host dest ((block nf st).map (·.1))
          (((block nf st).map fun x => decodeOne x.1.enc x.2).flatten)) ::
        run host dest nf fuel (advance nf st) := by
  simp only [run, pipeLoop, block, advance, List.zip_map', List.map_map]
  rfl

theorem run_stop {host : Bool} (h : ∃ x ∈ st, framesLeft x = 0) : run host dest nf fuel st = [] := by
  cases fuel with
  | zero => rfl
  | succ fuel =>
    obtain ⟨x, hx, h0⟩ := h
    rw [run_succ, if_pos]
    rw [List.any_flatten, List.any_map, List.any_eq_true]
    refine ⟨_, mem_block.mpr ⟨x, hx, rfl⟩, ?_⟩
    simp only [Function.comp]
    rw [decodeOne_empty _ _ (Nat.eq_zero_of_le_zero (h0 ▸ Nat.div_le_div_right (List.length_take_le' ..))),
      List.any_replicate]
    exact if_neg (Nat.ne_of_gt (Nat.le_max_left 1 _))

theorem run_go {host : Bool} (hd : dest.big = false) (hw : 0 < dest.width) (hnf : 0 < nf)
    (hW : Wide dest.width st) (h : ∀ x ∈ st, 0 < framesLeft x) :
    run host dest nf (fuel + 1) st
      = encodeBlock dest.width (pipeChans (block nf st)) :: run host dest nf fuel (advance nf st) := by
  rw [run_succ, if_neg, applySwaps_block hd]
  -- an empty channel would belong to a source of the block without a whole frame
  intro hc
  obtain ⟨ch, hch, hemp⟩ := List.any_eq_true.mp hc
  simp only [List.mem_flatten, List.mem_map] at hch
  obtain ⟨_, ⟨y, hy, rfl⟩, hchl⟩ := hch
  have hlen : ch.length = framesLeft y :=
    decodeOne_channel_length y.1.enc ((hW.block nf y hy).1 ▸ hw) (hW.block nf y hy).2 _ ch hchl
  obtain ⟨x, hx, hfl⟩ := framesLeft_of_mem_block hw hW hy
  rw [List.isEmpty_iff.mp hemp, List.length_nil, hfl] at hlen
  exact Nat.ne_of_lt (Nat.lt_min.mpr ⟨hnf, h x hx⟩) hlen

/-- Sources of any lengths, partial trailing frames included, the shortest of `R` whole frames: after
the `R` interleaved frames comes padding, `P` whole output frames, and some source is at least `R + P`
frames long.

Induction over the blocks. While every source fills the block (`nf ≤ R`) it is `nf` exact frames
(`block_exact`) and the induction hypothesis speaks of the advanced state; otherwise the shortest source
ends in it: the `R` frames, then padded ones (`block_ragged`), and the next step stops. -/
theorem run_ragged (host : Bool) (hd : dest.big = false) (hw : 0 < dest.width) (hnf : 0 < nf) {R : Nat}
    (hW : Wide dest.width st) (hge : ∀ x ∈ st, R ≤ framesLeft x) (hR : ∃ x ∈ st, framesLeft x = R)
    (hlt : R < fuel) :
    ∃ P rest, (run host dest nf fuel st).flatten = expected dest.width st R ++ rest ∧
      rest.length = P * (chanCount st * dest.width) ∧ ∃ x ∈ st, R + P ≤ framesLeft x := by
  induction fuel generalizing R st with
  | zero => exact absurd hlt (Nat.not_lt_zero R)
  | succ fuel ih =>
    obtain ⟨x0, hx0, hR0⟩ := hR
    rcases Nat.eq_zero_or_pos R with rfl | hpos
    · rw [run_stop ⟨x0, hx0, hR0⟩]
      exact ⟨0, [], rfl, (Nat.zero_mul _).symm, x0, hx0, Nat.zero_le _⟩
    · have hWb := hW.block nf
      have hbne : block nf st ≠ [] := List.ne_nil_of_mem (mem_block.mpr ⟨x0, hx0, rfl⟩)
      have hbl : ∀ y ∈ block nf st, ∃ x ∈ st, framesLeft y = min nf (framesLeft x) ∧ R ≤ framesLeft x :=
        fun y hy => by
          obtain ⟨x, hx, h⟩ := framesLeft_of_mem_block hw hW hy
          exact ⟨x, hx, h, hge x hx⟩
      rw [run_go hd hw hnf hW fun x hx => Nat.lt_of_lt_of_le hpos (hge x hx),
        List.flatten_cons]
      rcases Nat.le_total nf R with hfull | hshort
      · -- `R = nf + k`: the shortest source of the advanced state has `k` frames left
        obtain ⟨k, rfl⟩ := Nat.exists_eq_add_of_le hfull
        have hblock : encodeBlock dest.width (pipeChans (block nf st)) = expected dest.width (block nf st) nf :=
          block_exact _ _ _ hw hbne hWb fun y hy => by
            obtain ⟨x, _, h, hx⟩ := hbl y hy
            exact h.trans (Nat.min_eq_left (Nat.le_trans hfull hx))
        obtain ⟨P, rest, hflat, hlen, y, hy, hP⟩ := ih (R := k) (hW.advance nf)
          (fun y hy => by
            obtain ⟨x, hx, rfl⟩ := mem_advance.mp hy
            rw [framesLeft_advance]
            exact Nat.le_sub_of_add_le' (hge x hx))
          ⟨_, mem_advance.mpr ⟨x0, hx0, rfl⟩, by rw [framesLeft_advance, hR0, Nat.add_sub_cancel_left]⟩
          (Nat.lt_of_lt_of_le (Nat.lt_add_of_pos_left hnf) (Nat.le_of_lt_succ hlt))
        obtain ⟨x, hx, rfl⟩ := mem_advance.mp hy
        rw [framesLeft_advance] at hP
        refine ⟨P, rest, ?_, by rw [hlen, chanCount_advance], x, hx, ?_⟩
        · rw [hblock, hflat, ← List.append_assoc, expected_block st (Nat.le_refl nf), ← expected_add]
        · rw [Nat.add_assoc]
          exact Nat.add_le_of_le_sub' (Nat.le_trans hfull (hge x hx)) hP
      · obtain ⟨P, rest, heq, hlen, y, hy, hP⟩ := block_ragged (α := Src × List Byte) (·.1.enc) (·.2)
          (fun x => gOf x.1.enc.big) hw hbne (fun x => gOf_length _) hWb fun y hy => by
            obtain ⟨x, _, h, hx⟩ := hbl y hy
            exact h ▸ Nat.le_min.mpr ⟨hshort, hx⟩
        have hP : R + P = framesLeft y := hP
        obtain ⟨x, hx, h, _⟩ := hbl y hy
        refine ⟨P, rest, ?_, by rw [hlen, pipeChans_length, chanCount_block], x, hx,
          Nat.le_trans (Nat.le_of_eq (hP.trans h)) (Nat.min_le_right ..)⟩
        rw [run_stop ⟨_, mem_advance.mpr ⟨x0, hx0, rfl⟩,
            by rw [framesLeft_advance, hR0, Nat.sub_eq_zero_of_le hshort]⟩,
          List.flatten_nil, List.append_nil, heq, ← expected_block st hshort]
        rfl

theorem run_whole (host : Bool) (hd : dest.big = false) (hw : 0 < dest.width) (hnf : 0 < nf) {R : Nat}
    (hne : st ≠ []) (hW : Wide dest.width st) (hR : ∀ x ∈ st, framesLeft x = R) (hlt : R < fuel) :
    (run host dest nf fuel st).flatten = expected dest.width st R := by
  obtain ⟨x0, hx0⟩ := List.exists_mem_of_ne_nil _ hne
  obtain ⟨P, rest, hflat, hlen, x, hx, hP⟩ := run_ragged host hd hw hnf hW
    (fun x hx => Nat.le_of_eq (hR x hx).symm) ⟨x0, hx0, hR x0 hx0⟩ hlt
  rw [hR x hx] at hP
  have hP0 : P = 0 := Nat.le_zero.mp (Nat.le_of_add_le_add_left (c := 0) hP)
  have : rest = [] := List.eq_nil_of_length_eq_zero (by rw [hlen, hP0, Nat.zero_mul])
  rw [hflat, this, List.append_nil]

end loop

theorem Uniform.wide {w : Nat} {st : St} {R : Nat} (h : Uniform w st R) : Wide w st :=
  fun x hx => ⟨(h x hx).1, (h x hx).2.1⟩

theorem Uniform.framesLeft {w : Nat} {st : St} {R : Nat} (h : Uniform w st R) (hw : 0 < w) :
    ∀ x ∈ st, framesLeft x = R :=
  fun x hx => length_div_frame ((h x hx).1 ▸ hw) (h x hx).2.1 (h x hx).2.2

/-- **the loop**: `R` frames in every source, any block size `nf ≥ 1`. -/
theorem pipeLoop_uniform (host : Bool) (dest : Enc) (hd : dest.big = false) (hw : 0 < dest.width) (nf : Nat) (hnf : 0 < nf) :
    ∀ (fuel R : Nat) (st : St), st ≠ [] → Uniform dest.width st R → R < fuel →
      (pipeLoop host dest (st.map (·.1)) (st.map fun x => nf * x.1.enc.frame) fuel (st.map (·.2))).flatten
        = expected dest.width st R :=
  fun _ _ _ hne hu hlt => run_whole host hd hw hnf hne hu.wide (hu.framesLeft hw) hlt

theorem numFrames_pos (B : Nat) (srcs : List Src) : 0 < numFrames B srcs := by
  unfold numFrames
  split
  · decide
  · rename_i x xs h
    have hmem := (List.min?_eq_some_iff.mp (List.min?_cons' (x := x) (xs := xs))).1
    rw [← h] at hmem
    obtain ⟨s, _, hs⟩ := List.mem_map.mp hmem
    exact hs ▸ Nat.lt_of_lt_of_le Nat.one_pos (Nat.le_max_left ..)

/-- the state `make_transcoder` starts the loop on. -/
def start (srcs : List Src) : St := srcs.map fun s => (s, s.data)

theorem mem_start {srcs : List Src} {x : Src × List Byte} : x ∈ start srcs ↔ ∃ s ∈ srcs, (s, s.data) = x :=
  List.mem_map

theorem transcode_pipe {host : Bool} {B : Nat} {dest : Enc} {srcs : List Src} (hne : srcs ≠ [])
    (hch : (srcs.map (·.enc.chans)).foldl (· + ·) 0 = dest.nch)
    (hpipe : ∀ s, srcs = [s] → encEq s.enc dest = false) :
    transcode host B dest srcs = .ok (run host dest (numFrames B srcs)
      ((srcs.map (·.data.length)).foldl (· + ·) 0 + 1) (start srcs)) := by
  have h1 : srcs.isEmpty = false := by simpa using hne
  simp only [run, start, List.map_map, Function.comp_def, List.map_id']
  unfold transcode
  simp only [h1, hch, bne_self_eq_false, Bool.false_eq_true, if_false]
  split
  · rw [hpipe _ rfl]; rfl
  · rfl

theorem transcode_pass {host : Bool} {B : Nat} {dest : Enc} {s : Src}
    (hch : ([s].map (·.enc.chans)).foldl (· + ·) 0 = dest.nch) (heq : encEq s.enc dest = true) :
    transcode host B dest [s]
      = .ok (passLoop s.enc.frame (numFrames B [s] * s.enc.frame) (s.data.length + 1) s.data) := by
  have hch' : s.enc.chans = dest.nch := by simpa using hch
  simp [transcode, hch', heq]

theorem framesLeft_lt_fuel {srcs : List Src} {x} (hx : x ∈ start srcs) :
    framesLeft x < (srcs.map (·.data.length)).foldl (· + ·) 0 + 1 := by
  obtain ⟨s, hs, rfl⟩ := mem_start.mp hx
  exact Nat.lt_succ_of_le (Nat.le_trans (Nat.div_le_self ..)
    (le_foldl_add (List.mem_map_of_mem (f := fun s : Src => s.data.length) hs)))

/-- **C12 (any number of sources of equal length, through `make_transcoder`).** Two or more streams of
one sample width, each with `nch ≥ 1` interleaved channels and its own byte order, all holding `F` whole
frames, are written as exactly `F` output frames: frame `f` is, in source order, frame `f` of each
source, each sample byte-reversed exactly when its source is big-endian — for every host and every `B`. -/
theorem C12_equal_lengths (host : Bool) (B : Nat) (dest : Enc) (hd : dest.big = false) (hw : 0 < dest.width)
    (srcs : List Src) (hlen : 2 ≤ srcs.length) (F : Nat)
    (hs : ∀ s ∈ srcs, s.enc.width = dest.width ∧ 0 < s.enc.nch ∧ s.data.length = F * s.enc.frame)
    (hch : (srcs.map (·.enc.chans)).foldl (· + ·) 0 = dest.nch) :
    ∃ blocks, transcode host B dest srcs = .ok blocks ∧
      blocks.flatten = expected dest.width (srcs.map fun s => (s, s.data)) F := by
  have hne : srcs ≠ [] := List.ne_nil_of_length_pos (by omega)
  have hu : Uniform dest.width (start srcs) F := by
    intro y hy
    obtain ⟨s, hsm, rfl⟩ := mem_start.mp hy
    exact hs s hsm
  obtain ⟨s0, hs0⟩ := List.exists_mem_of_ne_nil srcs hne
  have hx0 : (s0, s0.data) ∈ start srcs := mem_start.mpr ⟨s0, hs0, rfl⟩
  refine ⟨_, transcode_pipe hne hch (fun s e => by rw [e] at hlen; simp at hlen), ?_⟩
  exact run_whole host hd hw (numFrames_pos B srcs) (List.ne_nil_of_mem hx0) hu.wide
    (hu.framesLeft hw) (hu.framesLeft hw _ hx0 ▸ framesLeft_lt_fuel hx0)

/-- non-vacuity: big-endian stereo, little-endian mono, big-endian mono; two frames, block of one frame. -/
example : (transcode true 2 ⟨false, 2, 4, true⟩
      [⟨⟨true, 2, 2, true⟩, [1, 2, 3, 4, 5, 6, 7, 8]⟩, ⟨⟨false, 2, 1, true⟩, [9, 10, 11, 12]⟩, ⟨⟨true, 2, 1, false⟩, [13, 14, 15, 16]⟩]).toOption.map List.flatten
    = some ([2, 1, 4, 3, 9, 10, 14, 13, 6, 5, 8, 7, 11, 12, 16, 15].map some) := by decide +kernel

end Smpl.Props.C12
