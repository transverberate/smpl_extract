/-
C14 (Roland part) — damaging one sample's directory record or parameter record affects only that sample.
The literals are those of the sample areas: 8192 = `maxNum .samp`, 32 and 48 = the sizes of a directory
and a parameter record (tied to the source in `Consts.K_roland_areas`).
-/
import Smpl.Model.Roland

namespace Smpl.Props.C14
open Smpl Smpl.Roland

/-- the images agree on every read clear of the directory and the parameter record of sample `i`. -/
def AgreeOutsideSample (img img' : Img) (i : Nat) : Prop :=
  ∀ off n,
    (off + n ≤ dirOff .samp + 32 * i ∨ dirOff .samp + 32 * i + 32 ≤ off) →
    (off + n ≤ parOff .samp + 48 * i ∨ parOff .samp + 48 * i + 48 ≤ off) →
    img'.rd off n = img.rd off n

theorem samp_disjoint {D P i j : Nat} (hji : j ≠ i) (hj : j < 8192) (hi : i < 8192)
    (hDP : D + 32 * 8192 ≤ P) :
    ((D + 32 * j) + 32 ≤ D + 32 * i ∨ D + 32 * i + 32 ≤ D + 32 * j) ∧
    ((D + 32 * j) + 32 ≤ P + 48 * i ∨ P + 48 * i + 48 ≤ D + 32 * j) ∧
    ((P + 48 * j) + 48 ≤ D + 32 * i ∨ D + 32 * i + 32 ≤ P + 48 * j) ∧
    ((P + 48 * j) + 48 ≤ P + 48 * i ∨ P + 48 * i + 48 ≤ P + 48 * j) := by
  omega

theorem areas_ordered : dirOff .samp + 32 * 8192 ≤ parOff .samp := by decide

/-- **C14 (Roland).** Whatever bytes replace the directory and parameter records of sample `i`,
every other sample's record parses to exactly what it parsed to before. -/
theorem C14_roland_other_samples (img img' : Img) (i j : Nat) (hi : i < 8192)
    (h : AgreeOutsideSample img img' i) (hji : j ≠ i) :
    sampleRec img' j = sampleRec img j := by
  by_cases hj : j ≥ maxNum .samp
  · simp only [sampleRec, hj, if_true]
    rfl
  · -- the records of sample `j` lie clear of those of sample `i`
    obtain ⟨d1, d2, d3, d4⟩ :=
      samp_disjoint hji (Nat.not_le.mp hj) hi areas_ordered
    simp only [sampleRec, dirRec, h _ 32 d1 d2, h _ 48 d3 d4]

end Smpl.Props.C14
