/-
C07 — AKAI SAT decoding: what a walk does (`akaiWalk_spec`), and soundness.
-/
import Smpl.Props.C07

namespace Smpl.Props.C07
open Smpl Smpl.Alloc

/-- The step the SAT prescribes: a link word names the next sector, a directory-flag word
(`AKAI_SAT_RESERVED_FLAG_STD` / `_V2`) continues with the following sector. -/
def AStep (words : Array Nat) (a b : Nat) : Prop :=
  ∃ v, words[a]? = some v ∧
    ((isDirWord v = false ∧ v ≠ SAT_FREE ∧ b = v) ∨ (isDirWord v = true ∧ b = a + 1))

def AFollows (words : Array Nat) (links : List Link) : Prop :=
  ∀ (x : Nat) (l : Link), links[x]? = some l → l.isEnd = true ∨ AStep words x l.next

/-- What a walk that does not raise has done: it flagged the sectors `w`, a path of SAT steps from `sub`.
`w` is empty if `sub` lies beyond the table, or at the exit `not current_sector_is_directory and
previous_sector_was_directory and len(links) > 0`, which leaves `sub` unflagged for a later walk. The link
table is as it was, or has `w` installed behind what was walked before (`lst`, kept newest first), or has
that and the last sector of `w` linked on to the visited sector its word names (the chain runs into one
decoded before). -/
theorem akaiWalk_spec {words : Array Nat} {st : AkaiSt} {lst : List Nat} {sub : Nat} :
    ∀ {st' : AkaiSt}, akaiWalk words st lst sub = .ok st' →
    ∃ w, ((w = [] ∧ (words[sub]? = none ∨ lst ≠ [])) ∨ ∃ t, w = sub :: t) ∧ Path (AStep words) Any w ∧
      st'.dirty = mark w st.dirty ∧
      (st'.links = st.links ∨ ∃ ls, addLinks (lst.reverse ++ w) st.links = .ok ls ∧
        (st'.links = ls ∨ ∃ z v, w.getLast? = some z ∧ AStep words z v ∧ st'.links = ls.set z ⟨v, false⟩)) := by
  -- the cases are the branches of `akaiWalk` in source order, each installing branch followed by the one
  -- in which `addLinks` fails: 1 no word at `sub`; 2/3 the exit after a directory run; 4/5 the word names
  -- a visited sector (join); 6 a free word; 7/8 the end mark; 9 the step to the next sector; 10/11 a
  -- directory run reaches the table's end; 12 a link beyond the table.  In 2/3 the principle states
  -- the accumulator through `attach`/`unattach` (the definition is by well-founded recursion).
  fun_induction akaiWalk words st lst sub <;> intro st' he
  case case1 hw => cases he; exact ⟨[], .inl ⟨rfl, .inl hw⟩, trivial, rfl, .inl rfl⟩
  case case2 st lst sub v hw curDir hc ls hadd =>
    simp only [List.unattach_reverse, List.unattach_attach] at hadd he
    rw [hadd] at he
    cases he
    exact ⟨[], .inl ⟨rfl, .inr fun e => by simp [e] at hc⟩, trivial, rfl, .inr ⟨ls, by simpa using hadd, .inl rfl⟩⟩
  case case3 hadd =>
    simp only [List.unattach_reverse, List.unattach_attach] at hadd he
    rw [hadd] at he
    cases he
  case case4 st lst sub size v hw curDir _ _ dirty' hc3 ls hadd =>
    cases he
    simp only [Bool.and_eq_true, bne_iff_ne, ne_eq, Bool.not_eq_true'] at hc3
    exact ⟨[sub], .inr ⟨[], rfl⟩, trivial, rfl, .inr ⟨ls, by simpa using hadd,
      .inr ⟨sub, v, rfl, ⟨v, hw, .inl ⟨hc3.2, hc3.1, rfl⟩⟩, rfl⟩⟩⟩
  case case6 | case12 => cases he; exact ⟨[_], .inr ⟨[], rfl⟩, trivial, rfl, .inl rfl⟩
  case case7 ls hadd | case10 ls hadd =>
    cases he; exact ⟨[_], .inr ⟨[], rfl⟩, trivial, rfl, .inr ⟨ls, by simpa using hadd, .inl rfl⟩⟩
  case case9 st lst sub size v hw curDir _ hc2 _ st1 next hlt ih =>
    have hs : AStep words sub next := by
      refine ⟨v, hw, ?_⟩
      cases hd : isDirWord v with
      | false => exact .inl ⟨rfl, fun e => hc2 (by rw [e]; rfl), by simp [next, curDir, hd]⟩
      | true => exact .inr ⟨rfl, by simp [next, curDir, hd]⟩
    obtain ⟨w, hw', hp, hd, hl⟩ := ih he
    refine ⟨sub :: w, .inr ⟨w, rfl⟩, ?_, hd, ?_⟩
    · rcases hw' with ⟨rfl, _⟩ | ⟨t, rfl⟩
      · trivial
      · exact ⟨hs, hp⟩
    · rcases hl with hl | ⟨ls, hadd, hl | ⟨z, u, hz, hzu, hl⟩⟩
      · exact .inl hl
      · exact .inr ⟨ls, by simpa using hadd, .inl hl⟩
      · exact .inr ⟨ls, by simpa using hadd, .inr ⟨z, u, by simp [List.getLast?_cons, hz], hzu, hl⟩⟩
  all_goals cases he

theorem addLinks_afollows {words : Array Nat} {p : List Nat} {links ls : List Link} (h : AFollows words links)
    (hp : Path (AStep words) Any p) (he : addLinks p links = .ok ls) : AFollows words ls := fun x l hx => by
  rcases (addLinks_spec hp he).2 x with ⟨_, e⟩ | ⟨_, _, e⟩ | ⟨_, _, b, hb, e⟩
  · exact h x l (e ▸ hx)
  · cases hx.symm.trans e
    exact .inl rfl
  · cases hx.symm.trans e
    exact .inr hb

theorem akaiWalk_afollows {words : Array Nat} {st st' : AkaiSt} {lst : List Nat} {sub : Nat}
    (hf : AFollows words st.links) (hr : Path (fun b a => AStep words a b) Any (sub :: lst))
    (he : akaiWalk words st lst sub = .ok st') : AFollows words st'.links := by
  obtain ⟨w, hw, hp, _, hl⟩ := akaiWalk_spec he
  have hP : Path (AStep words) Any (lst.reverse ++ w) := by
    rcases hw with ⟨rfl, _⟩ | ⟨t, rfl⟩
    · simpa using hr.tail.reverse
    · exact Path.append (by simpa using hr.reverse) hp
  rcases hl with hl | ⟨ls, hadd, hl | ⟨z, v, _, hzv, hl⟩⟩
  · rwa [hl]
  · exact hl ▸ addLinks_afollows hf hP hadd
  · intro x l hx
    rw [hl, List.getElem?_set] at hx
    by_cases e : z = x
    · rw [if_pos e] at hx
      by_cases hz : z < ls.length
      · rw [if_pos hz] at hx
        cases hx; cases e
        exact .inr hzv
      · rw [if_neg hz] at hx
        cases hx
    · rw [if_neg e] at hx
      exact addLinks_afollows hf hP hadd x l hx

theorem akaiWalk_dirty {words : Array Nat} {st st' : AkaiSt} {lst : List Nat} {sub : Nat}
    (he : akaiWalk words st lst sub = .ok st') :
    st'.dirty.size = st.dirty.size ∧ (∀ x : Nat, st.dirty[x]? = some true → st'.dirty[x]? = some true) ∧
    (lst = [] → sub < words.size → sub < st.dirty.size → st'.dirty[sub]? = some true) := by
  obtain ⟨w, hw, _, e, _⟩ := akaiWalk_spec he
  refine ⟨by rw [e, size_mark], fun x h => by rw [e, mark_true]; exact .inl h, fun hl hlt h => ?_⟩
  rcases hw with ⟨_, hn | hne⟩ | ⟨t, rfl⟩
  · exact absurd hlt (Nat.not_lt.mpr (Array.getElem?_eq_none_iff.mp hn))
  · exact absurd hl hne
  · rw [e, mark_true]; exact .inr ⟨by simp, h⟩

theorem akaiWalk_links_len {words : Array Nat} {st st' : AkaiSt} {lst : List Nat} {sub : Nat}
    (he : akaiWalk words st lst sub = .ok st') : st'.links.length = st.links.length := by
  obtain ⟨w, _, _, _, hl | ⟨ls, hadd, hl | ⟨z, v, _, _, hl⟩⟩⟩ := akaiWalk_spec he
  · rw [hl]
  · rw [hl, addLinks_length hadd]
  · rw [hl, List.length_set, addLinks_length hadd]

/-- What holds of the outer loop's state before sector `i`, whatever the table. -/
structure ABase (n i : Nat) (st : AkaiSt) : Prop where
  len   : st.links.length = n
  dsize : st.dirty.size = n
  below : ∀ j, j < i → j < n → st.dirty[j]? = some true

theorem akaiDecode_inv {words : List Nat} {links : List Link} (I : Nat → AkaiSt → Prop)
    (h0 : I 0 ⟨List.replicate words.length Link.dflt, Array.replicate words.length false, true⟩)
    (hskip : ∀ i st, I i st → st.dirty[i]? = some true → I (i + 1) st)
    (hwalk : ∀ i st st', i < words.length → ABase words.length i st → ABase words.length (i + 1) st' → I i st →
      st.dirty[i]? = some false → akaiWalk words.toArray st [] i = .ok st' → I (i + 1) st')
    (h : akaiDecode words = .ok links) :
    ∃ st, ABase words.length words.length st ∧ I words.length st ∧ st.links = links := by
  obtain ⟨st, hfold, rfl⟩ := map_eq_ok h
  have := foldlM_inv (fun k st => ABase words.length k st ∧ I k st)
    ⟨⟨by simp, by simp, fun j hj => absurd hj (Nat.not_lt_zero j)⟩, h0⟩ (fun k hk s s' ⟨hb, hI⟩ hs => ?_) hfold
  · simp only [List.length_range] at this
    exact ⟨st, this.1, this.2, rfl⟩
  · rw [List.length_range] at hk
    rw [List.getElem_range] at hs
    have hks : k < s.dirty.size := by rw [hb.dsize]; exact hk
    rw [Array.getElem?_eq_getElem hks, Option.getD_some] at hs
    have below' : ∀ {s' : AkaiSt}, (∀ x : Nat, s.dirty[x]? = some true → s'.dirty[x]? = some true) →
        s'.dirty[k]? = some true → ∀ j, j < k + 1 → j < words.length → s'.dirty[j]? = some true :=
      fun hm hk' j hj hjn =>
        if e : j = k then e ▸ hk' else hm j (hb.below j (lt_of_lt_succ_of_ne hj (Ne.symm e)) hjn)
    split at hs
    · rename_i hd
      cases hs
      have hd' : s.dirty[k]? = some true := by rw [Array.getElem?_eq_getElem hks, hd]
      exact ⟨⟨hb.len, hb.dsize, below' (fun _ h => h) hd'⟩, hskip k s hI hd'⟩
    · rename_i hd
      obtain ⟨h1, h2, h3⟩ := akaiWalk_dirty hs
      have hb' : ABase words.length (k + 1) s' :=
        ⟨(akaiWalk_links_len hs).trans hb.len, h1.trans hb.dsize,
          below' h2 (h3 rfl (by simpa using hk) hks)⟩
      exact ⟨hb', hwalk k s s' hk hb hb' hI (by rw [Array.getElem?_eq_getElem hks]; simpa using hd) hs⟩

/-- **AKAI SAT decoding is sound**: whatever the table contains, every non-end link of the decoded table
is the step the SAT prescribes from that sector (`AStep`). -/
theorem C07_akai_sound (words : List Nat) (links : List Link) (h : akaiDecode words = .ok links) :
    AFollows words.toArray links := by
  obtain ⟨st, _, hst, rfl⟩ := akaiDecode_inv (fun _ st => AFollows words.toArray st.links)
    (fun x l hx => .inl (by cases (List.mem_replicate.mp (List.mem_of_getElem? hx)).2; rfl))
    (fun _ _ h _ => h) (fun _ _ _ _ _ _ h _ he => akaiWalk_afollows (lst := []) h trivial he) h
  exact hst

/-- **The resolved chain follows the SAT.** In any chain `get_path` returns over the decoded table,
each sector but the last is followed by the sector the SAT prescribes. -/
theorem C07_akai_path_follows_sat (words : List Nat) (links : List Link)
    (h : akaiDecode words = .ok links) (size start : Nat) (p : List Nat)
    (hp : getPath links size start = .ok p) :
    ∀ k a b, p[k]? = some a → p[k + 1]? = some b → AStep words.toArray a b := by
  intro k a b ha hb
  obtain ⟨l, hl, he, rfl⟩ :=
    (chain_iff.mp (C07_getPath_sound links size start p hp).1).2.step ha hb
  exact (C07_akai_sound words links h a l hl).resolve_left (by simp [he])

end Smpl.Props.C07
