/-
What the export theorems of the two tools (C01E, C02E) share: the pairing loop on names that are no
pair halves, the assignment of clean names, the bytes `export_wav` writes for one mono source.
-/
import Smpl.Props.C06N
import Smpl.Lemmas.Stereo
import Smpl.Props.C12I

namespace Smpl.Props.C01
open Smpl Smpl.Akai Smpl.AkaiTool Smpl.Names Smpl.Transcode Smpl.Props.C06

/-- names that are pairwise distinct and none of which has the shape of a pair half are written one
by one, in order. -/
theorem combine_no_stereo (names : List Name) (hnd : names.Nodup)
    (hns : ∀ n ∈ names, stereoMatch n = none) :
    combine names = (List.range names.length).map Group.mono := by
  -- no name is marked before its turn, so every round writes the name alone
  obtain ⟨_, h, _⟩ := combine_induct names
    (fun i marked acc => acc = (List.range i).map Group.mono ∧ ∀ m ∈ marked, ∃ k, k < i ∧ names[k]? = some m)
    (by
      intro i n marked acc hni hm ⟨_, hmk⟩
      obtain ⟨k, hk, e⟩ := hmk n hm
      exact absurd (idx_inj hnd e hni) (Nat.ne_of_lt hk))
    (by
      intro i n marked acc hni _ _ ⟨hacc, hmk⟩
      refine ⟨by simp [hacc, List.range_succ], fun m hm => ?_⟩
      rcases List.mem_cons.mp hm with rfl | hm
      · exact ⟨i, Nat.lt_succ_self i, hni⟩
      · obtain ⟨k, hk, e⟩ := hmk m hm
        exact ⟨k, Nat.lt_succ_of_lt hk, e⟩)
    (by
      intro i n _ _ st sp sd _ _ _ hni _ hsm
      rw [hns n (List.mem_of_getElem? hni)] at hsm
      cases hsm)
    ⟨rfl, by intro m hm; cases hm⟩
  exact h

theorem mapM_range_getElem {α β : Type} (F : α → Except Err β) : ∀ (l : List α) (k : Nat) (G : Nat → Except Err β),
    (∀ j x, l[j]? = some x → G (k + j) = F x) →
    (List.range' k l.length).mapM G = l.mapM F := by
  intro l
  induction l with
  | nil => exact fun _ _ _ => rfl
  | cons a as ih =>
    intro k G hG
    rw [List.length_cons, List.range'_succ, List.mapM_cons, List.mapM_cons, ← hG 0 a rfl,
      ih (k + 1) G fun j x hx => by rw [← hG (j + 1) x hx, Nat.add_right_comm, Nat.add_assoc]]
    rfl

theorem mapM_combine_mono {α β : Type} {items : List α} {name : α → Name} {F : Group → Except Err β}
    {G : α → Except Err β} (hnd : (items.map name).Nodup) (hns : ∀ x ∈ items, stereoMatch (name x) = none)
    (hF : ∀ i x, items[i]? = some x → F (.mono i) = G x) :
    (combine (items.map name)).mapM F = items.mapM G := by
  rw [combine_no_stereo _ hnd (List.forall_mem_map.mpr hns), List.length_map, List.mapM_map, List.range_eq_range']
  exact mapM_range_getElem G items 0 _ fun j x hx => by rw [Nat.zero_add]; exact hF j x hx

theorem assign_clean {α : Type} {l : List α} {f : α → Name} {b : Bool} (hc : ∀ x ∈ l, CleanName (f x))
    (hnd : (l.map f).Nodup) : assign (l.map fun x => (f x, b)) = .ok (l.map fun x => (f x, f x)) := by
  rw [C06_clean_names_kept _ (List.forall_mem_map.mpr hc) (by rw [List.map_map]; exact hnd), List.map_map]
  rfl

theorem mapM_congr {α β : Type} {f g : α → Except Err β} : ∀ {l : List α}, (∀ x ∈ l, f x = g x) →
    l.mapM f = l.mapM g := by
  intro l
  induction l with
  | nil => exact fun _ => rfl
  | cons a as ih =>
    intro h
    rw [List.mapM_cons, List.mapM_cons, h a (List.mem_cons_self ..), ih fun x hx => h x (List.mem_cons_of_mem _ hx)]

theorem map_getD_map_some (l : List Nat) : (l.map some).map (fun b => b.getD 0) = l := by
  induction l with
  | nil => rfl
  | cons a as ih => simp [ih]

theorem exportOne_mono_wav (g : Smpl.Wav.GenSample) (hch : g.channels = 1) (d : Bytes) :
    exportOne g [⟨monoEnc, d⟩] =
      match Smpl.Wav.buildWav (Smpl.Wav.metaOf g) (wholeFrames 2 d) with
      | .error e => .error e
      | .ok bs => .ok ((bs.take (bs.length - (wholeFrames 2 d).length)).map some ++ (wholeFrames 2 d).map some) := by
  obtain ⟨blocks, hb, hfl⟩ := Smpl.Props.C12.C12_single false 4096 monoEnc true (by decide) (by decide) d
  rw [show (⟨false, monoEnc.width, monoEnc.nch, true⟩ : Enc) = ⟨false, 2, g.channels, true⟩ by rw [hch]; rfl] at hb
  have hpcm : blocks.flatten = (wholeFrames 2 d).map some := by
    rw [hfl]
    exact congrArg _ (Smpl.Props.C12.mapSamples_id 2 (d.length / 2) (by decide) _ (Smpl.Props.C12.wholeFrames_length ..))
  simp only [exportOne, hb, hpcm, map_getD_map_some, List.length_map]
  rfl

end Smpl.Props.C01
