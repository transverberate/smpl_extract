/-
The struct layouts that the hand-written models assume (Model/Akai, Roland, Wav, Container read these
records at explicit offsets), compared with the layouts read off the construct objects of /repo on
every run (`Smpl.Gen.Structs`): a field that moves or changes size there breaks its theorem below.
Each table is the leading statically sized part of its struct.
-/
import Smpl.Gen.Structs

namespace Smpl.Props.Layouts.Frozen

/-- `PartitionHeaderConstruct` (akai/partition.py), 202 bytes. -/
def akaiPartitionHeader : List (String × Nat × Nat) := [
  ("start_address", 0, 0), ("size", 0, 2), ("total_size", 2, 0), ("check_sum_x", 2, 0),
  ("partition_stream", 2, 0), ("", 2, 2), ("", 4, 194), ("", 198, 1),
  ("", 199, 1), ("", 200, 2)]
/-- `VolumeEntryConstruct` (akai/volume.py), 16 bytes. -/
def akaiVolumeEntry : List (String × Nat × Nat) := [
  ("name", 0, 12), ("type_raw", 12, 2), ("type", 14, 0), ("start", 14, 2)]
/-- `FileEntryConstruct` (akai/file_entry.py), 24 bytes. -/
def akaiFileEntry : List (String × Nat × Nat) := [
  ("name", 0, 12), ("", 12, 4), ("file_type", 16, 1), ("size", 17, 3),
  ("start", 20, 2), ("", 22, 2), ("file_stream", 24, 0)]
/-- `LoopDataConstruct` (akai/sample.py), 12 bytes. -/
def akaiLoopData : List (String × Nat × Nat) := [
  ("loop_start", 0, 4), ("loop_length_fine", 4, 2), ("loop_length_coarse", 6, 4), ("loop_duration", 10, 2)]
/-- `SampleHeaderConstruct` (akai/sample.py), 140 bytes. -/
def akaiSampleHeader : List (String × Nat × Nat) := [
  ("id", 0, 1), ("", 1, 1), ("note_pitch", 2, 1), ("sample_name", 3, 12),
  ("", 15, 4), ("loop_type", 19, 1), ("pitch_offset_cents", 20, 1), ("pitch_offset_semi", 21, 1),
  ("", 22, 4), ("samples_cnt", 26, 4), ("play_start", 30, 4), ("play_end", 34, 4),
  ("loop_data_table", 38, 96), ("", 134, 4), ("sampling_rate", 138, 2), ("data_address", 140, 0),
  ("data_stream", 140, 0)]
/-- `IdAreaStruct` (roland/s7xx/image.py), 286 bytes. -/
def rolandIdArea : List (String × Nat × Nat) := [
  ("revision", 0, 4), ("s7xx_str", 4, 10), ("", 14, 2), ("empty_str", 16, 15),
  ("", 31, 1), ("version_str", 32, 31), ("", 63, 1), ("copyright_str", 64, 31),
  ("", 95, 1), ("", 96, 160), ("disk_name", 256, 16), ("disk_capacity", 272, 4),
  ("num_volumes", 276, 2), ("num_performances", 278, 2), ("num_patches", 280, 2), ("num_partials", 282, 2),
  ("num_samples", 284, 2)]
/-- `DirectoryEntryStruct` (roland/s7xx/directory_area.py), 32 bytes. -/
def rolandDirEntry : List (String × Nat × Nat) := [
  ("name", 0, 16), ("index", 16, 0), ("file_type", 16, 1), ("file_attributes", 17, 1),
  ("forward_link_ptr", 18, 2), ("backward_link_ptr", 20, 2), ("link_id", 22, 2), ("reserved", 24, 4),
  ("fat_entry", 28, 2), ("num_clusters", 30, 2)]
/-- `SampleParamEntryStruct` (roland/s7xx/sample_entry.py), 48 bytes. -/
def rolandSampleParam : List (String × Nat × Nat) := [
  ("name", 0, 16), ("index", 16, 0), ("start_sample", 16, 4), ("sustain_loop_start", 20, 4),
  ("sustain_loop_end", 24, 4), ("release_loop_start", 28, 4), ("release_loop_end", 32, 4), ("loop_mode", 36, 1),
  ("sustain_loop_enable", 37, 1), ("sustain_loop_tune", 38, 1), ("release_loop_tune", 39, 1), ("cluster_top", 40, 2),
  ("num_clusters", 42, 2), ("sample_options", 44, 1), ("original_key", 45, 1), ("", 46, 2)]
/-- `VolumeParamEntryStruct` (roland/s7xx/volume_entry.py), 256 bytes. -/
def rolandVolumeParam : List (String × Nat × Nat) := [
  ("name", 0, 16), ("", 16, 16), ("performance_ptrs", 32, 128), ("", 160, 96)]
/-- `PerformanceParamEntryStruct` (roland/s7xx/performance_entry.py), 512 bytes. -/
def rolandPerformanceParam : List (String × Nat × Nat) := [
  ("name", 0, 16), ("index", 16, 0), ("parts_patch_selection", 16, 32), ("midi_channel_data", 48, 16),
  ("parts_level", 64, 32), ("parts_zone_lower", 96, 32), ("parts_zone_upper", 128, 32), ("parts_fade_width_lower", 160, 32),
  ("parts_fade_width_upper", 192, 32), ("parts_program_change", 224, 2), ("parts_pitch_bend", 226, 2), ("parts_modulation", 228, 2),
  ("parts_hold_pedal", 230, 2), ("parts_bend_range", 232, 2), ("parts_midi_volume", 234, 2), ("parts_after_touch_switch", 236, 2),
  ("parts_after_touch_mode", 238, 2), ("velocity_curve_type_data", 240, 16), ("patch_list", 256, 64), ("", 320, 192)]
/-- `PatchParamEntryStruct` (roland/s7xx/patch_entry.py), 512 bytes. -/
def rolandPatchParam : List (String × Nat × Nat) := [
  ("name", 0, 16), ("index", 16, 0), ("program_change_num", 16, 1), ("stereo_mix_level", 17, 1),
  ("total_pan", 18, 1), ("patch_level", 19, 1), ("output_assign_8", 20, 1), ("priority", 21, 1),
  ("cutoff", 22, 1), ("velocity_sensitivity", 23, 1), ("octave_shift", 24, 1), ("coarse_tune", 25, 1),
  ("fine_tune", 26, 1), ("smt_ctrl_selection", 27, 1), ("smt_ctrl_sensitivity", 28, 1), ("out_assign", 29, 1),
  ("analog_feel", 30, 1), ("", 31, 1), ("keys_partial_selection", 32, 88), ("", 120, 8),
  ("keys_assign_type", 128, 88), ("", 216, 8), ("bender", 224, 4), ("after_touch", 228, 7),
  ("modulation", 235, 4), ("", 239, 1), ("controller", 240, 8), ("", 248, 8),
  ("partial_list", 256, 176), ("", 432, 80)]
/-- `PartialParamSampleSectionStruct` (roland/s7xx/partial_entry.py), 11 bytes. -/
def rolandPartialSampleSection : List (String × Nat × Nat) := [
  ("sample_selection", 0, 2), ("pitch_kf", 2, 1), ("sample_level", 3, 1), ("pan", 4, 1),
  ("coarse_tune", 5, 1), ("fine_tune", 6, 1), ("smt_velocity_lower", 7, 1), ("smt_fade_with_lower", 8, 1),
  ("smt_velocity_upper", 9, 1), ("smt_fade_with_upper", 10, 1)]
/-- `PartialParamEntryStruct` (roland/s7xx/partial_entry.py), 128 bytes. -/
def rolandPartialParam : List (String × Nat × Nat) := [
  ("name", 0, 16), ("index", 16, 0), ("sample_1", 16, 11), ("", 27, 1),
  ("output_assign_8", 28, 1), ("stereo_mix_level", 29, 1), ("partial_level", 30, 1), ("output_assign_6", 31, 1),
  ("sample_2", 32, 11), ("", 43, 1), ("pan", 44, 1), ("course_tune", 45, 1),
  ("fine_tune", 46, 1), ("breath_cntrl", 47, 1), ("sample_3", 48, 11), ("", 59, 5),
  ("sample_4", 64, 11), ("tvf", 75, 21), ("tva", 96, 16), ("lfo_generator", 112, 9),
  ("", 121, 7)]
/-- `WavLoopStruct` (formats/wav.py), 24 bytes. -/
def wavLoop : List (String × Nat × Nat) := [
  ("cue_id", 0, 4), ("loop_type", 4, 4), ("start_byte", 8, 4), ("end_byte", 12, 4),
  ("fraction", 16, 4), ("play_cnt", 20, 4)]
/-- `WavSampleChunkStruct` (formats/wav.py), 36 bytes. -/
def wavSampleChunkHead : List (String × Nat × Nat) := [
  ("manufacturer", 0, 4), ("product", 4, 4), ("sample_period", 8, 4), ("midi_note", 12, 4),
  ("pitch_fraction", 16, 4), ("smpte_format", 20, 4), ("smpte_offset", 24, 4), ("sample_loop_cnt", 28, 4),
  ("sampler_data_size", 32, 4)]
/-- `WavFormatChunkStruct` (formats/wav.py), 16 bytes. -/
def wavFormatChunk : List (String × Nat × Nat) := [
  ("audio_format", 0, 2), ("channel_cnt", 2, 2), ("sample_rate", 4, 4), ("byte_rate", 8, 4),
  ("block_align", 12, 2), ("bits_per_sample", 14, 2)]
/-- `MdfSectorHeaderConstruct` (alcohol/mdf.py), 16 bytes. -/
def mdfSectorHeader : List (String × Nat × Nat) := [
  ("magic", 0, 12), ("id", 12, 3), ("", 15, 1)]
/-- `MdxHeaderConstruct` (alcohol/mdx.py), 64 bytes. -/
def mdxHeader : List (String × Nat × Nat) := [
  ("magic", 0, 16), ("version", 16, 2), ("copyright", 18, 26), ("", 44, 4),
  ("eof", 48, 8), ("", 56, 8)]

end Smpl.Props.Layouts.Frozen

namespace Smpl.Props.Layouts

theorem L_akaiPartitionHeader : Gen.Structs.akaiPartitionHeader = Frozen.akaiPartitionHeader := rfl
theorem L_akaiVolumeEntry : Gen.Structs.akaiVolumeEntry = Frozen.akaiVolumeEntry := rfl
theorem L_akaiFileEntry : Gen.Structs.akaiFileEntry = Frozen.akaiFileEntry := rfl
theorem L_akaiLoopData : Gen.Structs.akaiLoopData = Frozen.akaiLoopData := rfl
theorem L_akaiSampleHeader : Gen.Structs.akaiSampleHeader = Frozen.akaiSampleHeader := rfl
theorem L_rolandIdArea : Gen.Structs.rolandIdArea = Frozen.rolandIdArea := rfl
theorem L_rolandDirEntry : Gen.Structs.rolandDirEntry = Frozen.rolandDirEntry := rfl
theorem L_rolandSampleParam : Gen.Structs.rolandSampleParam = Frozen.rolandSampleParam := rfl
theorem L_rolandVolumeParam : Gen.Structs.rolandVolumeParam = Frozen.rolandVolumeParam := rfl
theorem L_rolandPerformanceParam : Gen.Structs.rolandPerformanceParam = Frozen.rolandPerformanceParam := rfl
theorem L_rolandPatchParam : Gen.Structs.rolandPatchParam = Frozen.rolandPatchParam := rfl
theorem L_rolandPartialSampleSection : Gen.Structs.rolandPartialSampleSection = Frozen.rolandPartialSampleSection := rfl
theorem L_rolandPartialParam : Gen.Structs.rolandPartialParam = Frozen.rolandPartialParam := rfl
theorem L_wavLoop : Gen.Structs.wavLoop = Frozen.wavLoop := rfl
theorem L_wavSampleChunkHead : Gen.Structs.wavSampleChunkHead = Frozen.wavSampleChunkHead := rfl
theorem L_wavFormatChunk : Gen.Structs.wavFormatChunk = Frozen.wavFormatChunk := rfl
theorem L_mdfSectorHeader : Gen.Structs.mdfSectorHeader = Frozen.mdfSectorHeader := rfl
theorem L_mdxHeader : Gen.Structs.mdxHeader = Frozen.mdxHeader := rfl

end Smpl.Props.Layouts
