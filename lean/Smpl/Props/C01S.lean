/-
C01 from the raw partition bytes: the chain is read off the raw segment allocation table.
-/
import Smpl.Props.C01
import Smpl.Props.C07AC
import Smpl.Lemmas.Rd
import Smpl.Lemmas.AkaiPartition

namespace Smpl.Props.C01
open Smpl Smpl.Akai Smpl.Alloc Smpl.Props.C07

def rawSat (file : Bytes) (pos : Nat) : List Nat :=
  words16 ((file.drop (pos + HEADER_BYTES + VOL_ENTRIES * VOL_ENTRY_BYTES)).take (2 * SAT_ENTRIES))

theorem parsePartition_links (file : Bytes) (pos letter : Nat) (p : Part) (next : Nat)
    (h : parsePartition file pos letter = .ok (some (p, next))) :
    akaiDecode (rawSat file pos) = .ok p.links ∧ (rawSat file pos).length = SAT_ENTRIES := by
  obtain ⟨_, _, satRaw, _, _, _, hs, hd, _, _⟩ := parsePartition_inv h
  have hlen := rd_length hs
  obtain ⟨_, rfl⟩ := rd_eq_some hs
  exact ⟨hd, words16_length hlen⟩

/-- **C01 (one sample file, from the raw image).** If the raw segment allocation table of the parsed
partition holds a file chain `c` (each word names the next sector, the last is `0xC000`) from the
entry's start sector, inside the partition, and the file's first 140 bytes parse to `h`, the entry is
realised as in `C01_realize_sample` with `path := c` — whatever else the table holds. -/
theorem C01_sample_from_image (file : Bytes) (pos letter : Nat) (p : Part) (next : Nat)
    (hp : parsePartition file pos letter = .ok (some (p, next)))
    (c : List Nat) (hc : ARawChain (rawSat file pos).toArray c)
    (e : FileEntry) (hstart : c.headD 0 = e.start) (hin : SectorsInside p c)
    (hty : isSampleType e.ftype = true) (h : SampleHdr) (programOk : Bytes → Bool)
    (hhdr : parseSampleHdr ((segment p c).take e.size) = some h) :
    realizeFile p e programOk = some ⟨e.name, e.ftype,
      .sample h (window ((segment p c).take e.size) (SAMPLE_HEADER_BYTES + 2 * h.start)
        (2 * ((h.end_ : Int) - h.start)))⟩ := by
  obtain ⟨hdec, hlen⟩ := parsePartition_links file pos letter p next hp
  have hwf := C07_akai_wf (rawSat file pos) p.links hdec (by rw [hlen]; decide) c hc
  have hpath : getPath p.links SAT_ENTRIES e.start = .ok c := by
    rw [← hstart, ← hlen]; exact hwf.2
  exact C01_realize_sample p e c h programOk hpath hin hty hhdr

end Smpl.Props.C01
