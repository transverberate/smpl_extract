/-
C07 — Roland FAT decoding is sound: every link the decoder installs is the link the FAT word of that
cluster denotes.
-/
import Smpl.Props.C07

namespace Smpl.Props.C07
open Smpl Smpl.Alloc

/-- the link a FAT word denotes. -/
def ofWord (v : Nat) : Link := if v ≥ FAT_END then ⟨0, true⟩ else ⟨v, false⟩

def Follows (words : Array Nat) (links : List Link) : Prop :=
  ∀ (x : Nat) (l : Link), links[x]? = some l → l = Link.dflt ∨ ∃ v, words[x]? = some v ∧ l = ofWord v

/-- A path the walk goes along in the raw FAT, to an end mark (`FAT_IS_END_F`). -/
def PathOK (words : Array Nat) : List Nat → Prop
  | [] => True
  | [a] => ∃ v, words[a]? = some v ∧ v ≥ FAT_END
  | a :: b :: rest => (words[a]? = some b ∧ b < FAT_END) ∧ PathOK words (b :: rest)

def FStep (words : Array Nat) (a b : Nat) : Prop := words[a]? = some b ∧ b < FAT_END

def FEnd (words : Array Nat) (a : Nat) : Prop := ∃ v, words[a]? = some v ∧ v ≥ FAT_END

theorem pathOK_iff {words : Array Nat} : ∀ {p}, PathOK words p ↔ Path (FStep words) (FEnd words) p
  | [] => Iff.rfl
  | [_] => Iff.rfl
  | _ :: _ :: _ => and_congr Iff.rfl pathOK_iff

theorem fstep_fun (words : Array Nat) (a b b' : Nat) (h : FStep words a b) (h' : FStep words a b') : b = b' :=
  Option.some.inj (h.1.symm.trans h'.1)

theorem fstep_not_end (words : Array Nat) (a b : Nat) (h : FStep words a b) : ¬ FEnd words a := by
  rintro ⟨v, hv, hend⟩
  cases h.1.symm.trans hv
  exact absurd h.2 (Nat.not_lt.mpr hend)

theorem pathOK_of_rev {words : Array Nat} {lst : List Nat} {sub : Nat} {tail : List Nat}
    (hr : Path (fun b a => FStep words a b) Any (sub :: lst)) (hp : PathOK words (sub :: tail)) :
    PathOK words (lst.reverse ++ sub :: tail) :=
  pathOK_iff.mpr (Path.append (by simpa using hr.reverse) (pathOK_iff.mp hp))

/-- What a walk that does not raise has done: the `while True` went along `sub :: t` and left at
* `FAT_IS_END_F(value)`: `sub :: t` is flagged and installed behind what was walked before (`lst`, kept
  newest first);
* `subpath_index >= FAT_NUM_ENTRIES`: the last of `sub :: t` is no cluster of the table; those before it
  are flagged, the table is as it was;
* the `break` at a free or reserved cluster: that is `sub`, with nothing walked before (else it raises);
  it is flagged, the table is as it was. -/
theorem rolandWalk_spec {words : Array Nat} {fuel : Nat} {st : RolSt} {lst : List Nat} {sub : Nat} :
    ∀ {st' : RolSt}, rolandWalk words fuel st lst sub = .ok st' → ∃ t,
      (PathOK words (sub :: t) ∧ addLinks (lst.reverse ++ sub :: t) st.links = .ok st'.links ∧
        st'.dirty = mark (sub :: t) st.dirty) ∨
      (st'.links = st.links ∧
        ((Path (FStep words) (fun z => words[z]? = none) (sub :: t) ∧ st'.dirty = mark (sub :: t).dropLast st.dirty) ∨
         ((∃ v, words[sub]? = some v ∧ (v = FAT_RESERVED ∨ v = FAT_FREE)) ∧ t = [] ∧ lst = [] ∧
           st'.dirty = mark [sub] st.dirty))) := by
  fun_induction rolandWalk words fuel st lst sub <;> intro st' he
  case case1 hw => cases he; exact ⟨[], .inr ⟨rfl, .inl ⟨hw, rfl⟩⟩⟩
  case case3 v hw _ _ hv hl =>
    cases he; exact ⟨[], .inr ⟨rfl, .inr ⟨⟨v, hw, by simpa using hv⟩, rfl, by simpa using hl, rfl⟩⟩⟩
  case case6 v hw _ _ _ _ hend ls hadd =>
    cases he
    exact ⟨[], .inl ⟨⟨v, hw, hend⟩, by simpa using hadd, rfl⟩⟩
  case case8 v hw _ _ hv _ hend ih =>
    have hs : FStep words _ v := ⟨hw, Nat.lt_of_not_le hend⟩
    obtain ⟨t, ⟨hp, hadd, hd⟩ | ⟨hl, ⟨hp, hd⟩ | ⟨_, _, h, _⟩⟩⟩ := ih he
    -- `hd` alone would have the unifier unfold `mark`
    · exact ⟨v :: t, .inl ⟨⟨hs, hp⟩, by simpa using hadd, hd.trans (mark_cons ..).symm⟩⟩
    · exact ⟨v :: t, .inr ⟨hl, .inl ⟨⟨hs, hp⟩, hd.trans (mark_cons ..).symm⟩⟩⟩
    · cases h
  all_goals cases he

theorem rolandWalk_keeps {words : Array Nat} (P : List Link → Prop)
    (hP : ∀ {p links ls}, P links → PathOK words p → addLinks p links = .ok ls → P ls)
    {fuel : Nat} {st st' : RolSt} {lst : List Nat} {sub : Nat} (h : P st.links)
    (hr : Path (fun b a => FStep words a b) Any (sub :: lst))
    (he : rolandWalk words fuel st lst sub = .ok st') : P st'.links := by
  obtain ⟨t, ⟨hp, hadd, _⟩ | ⟨hl, _⟩⟩ := rolandWalk_spec he
  · exact hP h (pathOK_of_rev hr hp) hadd
  · rw [hl]; exact h

theorem addLinks_pathOK {words : Array Nat} {p : List Nat} {links ls : List Link} (hp : PathOK words p)
    (he : addLinks p links = .ok ls) (x : Nat) :
    (x ∉ p ∧ ls[x]? = links[x]?) ∨ ∃ v, words[x]? = some v ∧ ls[x]? = some (ofWord v) := by
  rcases (addLinks_spec (pathOK_iff.mp hp) he).2 x with h | ⟨_, ⟨v, hv, hend⟩, e⟩ | ⟨_, _, b, ⟨hb, hlt⟩, e⟩
  · exact .inl h
  · exact .inr ⟨v, hv, by rw [e, ofWord, if_pos hend]⟩
  · exact .inr ⟨b, hb, by rw [e, ofWord, if_neg (Nat.not_le.mpr hlt)]⟩

theorem addLinks_follows {words : Array Nat} {p : List Nat} {links ls : List Link} (h : Follows words links)
    (hp : PathOK words p) (he : addLinks p links = .ok ls) : Follows words ls := fun x l hx => by
  rcases addLinks_pathOK hp he x with ⟨_, e⟩ | ⟨v, hv, e⟩
  · exact h x l (e ▸ hx)
  · exact .inr ⟨v, hv, Option.some.inj (hx.symm.trans e)⟩

/-- The outer `for i in range(2, FAT_NUM_ENTRIES - 9)`, with an invariant `I`. -/
theorem rolandDecode_inv {words : List Nat} {links : List Link} (I : Nat → RolSt → Prop)
    (h0 : I 2 ⟨List.replicate words.length Link.dflt,
      (Array.replicate words.length false).setIfInBounds 0 true |>.setIfInBounds 1 true⟩)
    (hskip : ∀ i st, I i st → st.dirty[i]?.getD true = true → I (i + 1) st)
    (hwalk : ∀ i st st', I i st → st.dirty[i]?.getD true = false →
      rolandWalk words.toArray words.length st [] i = .ok st' → I (i + 1) st')
    (h : rolandDecode words = .ok links) :
    ∃ st, I (words.length - 9 - 2 + 2) st ∧ st.links = links := by
  obtain ⟨st, hfold, rfl⟩ := map_eq_ok h
  refine ⟨st, ?_, rfl⟩
  have := foldlM_inv (fun k => I (k + 2)) h0 (fun k hk s s' hI hs => ?_) hfold
  · rwa [List.length_drop, List.length_range] at this
  · simp only [List.getElem_drop, List.getElem_range] at hs
    rw [Nat.add_comm 2 k] at hs
    split at hs
    · cases hs; exact hskip _ _ hI ‹_›
    · exact hwalk _ _ _ hI (Bool.eq_false_iff.mpr ‹_›) hs

/-- **Roland FAT decoding is sound**: if the decoder does not reject the table, every entry of the decoded
link table is untouched (the default, an end mark) or what the FAT word of that cluster says. -/
theorem C07_roland_sound (words : List Nat) (links : List Link) (h : rolandDecode words = .ok links) :
    Follows words.toArray links := by
  obtain ⟨st, hst, rfl⟩ := rolandDecode_inv (fun _ st => Follows words.toArray st.links)
    (fun x l hx => .inl (List.mem_replicate.mp (List.mem_of_getElem? hx)).2) (fun _ _ h _ => h)
    (fun _ _ _ h _ he => rolandWalk_keeps (lst := []) (Follows words.toArray) addLinks_follows h trivial he) h
  exact hst

/-- **The resolved chain follows the FAT.** In any chain `get_path` returns over the decoded table,
each cluster but the last is followed by the cluster its FAT word names. -/
theorem C07_roland_path_follows_fat (words : List Nat) (links : List Link)
    (h : rolandDecode words = .ok links) (size start : Nat) (p : List Nat)
    (hp : getPath links size start = .ok p) :
    ∀ k a b, p[k]? = some a → p[k + 1]? = some b → words[a]? = some b := by
  intro k a b ha hb
  obtain ⟨l, hl, he, hn⟩ :=
    (chain_iff.mp (C07_getPath_sound links size start p hp).1).2.step ha hb
  rcases C07_roland_sound words links h a l hl with rfl | ⟨v, hv, rfl⟩
  · cases he
  · by_cases hend : v ≥ FAT_END
    · simp [ofWord, hend] at he
    · simp only [ofWord, hend, if_false] at hn
      rwa [← hn, ← List.getElem?_toArray]

end Smpl.Props.C07
