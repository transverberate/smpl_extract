/-
C20 — `ls` reports the header values stored in the image for samples and programs.

The three AKAI layout tables of the model are those of the construct objects of /repo
(`Smpl.Gen.Layout`): name, offset, size, and for every one-byte field the text shown for each of the
256 byte values. The fields tile their record, so a shifted or mis-sized field cannot hide. What is
shown for a field depends on that field's bytes only and, switches and defaulting maps apart,
determines the stored byte.
-/
import Smpl.Model.AkaiProgram
import Smpl.Model.RolandTool
import Smpl.Gen.Layout
import Smpl.Lemmas.Decimal
import Smpl.Props.C18N

namespace Smpl.Props.C20
open Smpl Smpl.AkaiProgram

def triples (l : List Field) : List (String × Nat × Nat) := l.map fun f => (f.name, f.off, f.kind.size)

def codes (o : Option Smpl.Names.Name) : Option (List Nat) := o.map (·.map Char.toNat)

/-- the table of a one-byte kind in the translator's encoding: per stored byte 0..255 the character
codes of the shown text terminated by 0; `1, 0` where the construct raises. -/
def kindTable (k : Kind) : List Nat :=
  (List.range 256).flatMap fun b =>
    match codes (renderByte k b) with
    | none => [1, 0]
    | some cs => cs ++ [0]

/-- the distinct one-byte kinds in the order of their first occurrence in the three structs. -/
def kinds : List Kind :=
  [.u8, .midich, .enum priorityNames, .note, .s8, .aux, .bool, .enum reassignNames, .cents,
   .emap ["-6", "0", "12"] "0", .emap ["0", "6"] "0", .emap zoneLoopNames "Loop as sample"]

def shownTable (l : List Field) : List (String × Nat) :=
  (l.filter fun f => f.kind.oneByte && f.name != "").map fun f => (f.name, kinds.idxOf f.kind)

theorem C20_header_layout : Gen.Layout.header = triples headerLayout ∧ Gen.Layout.headerBytes = HEADER_BYTES :=
  ⟨rfl, rfl⟩

theorem C20_keygroup_layout :
    Gen.Layout.keygroupHead = triples keygroupHead ∧ Gen.Layout.keygroupHeadBytes = KG_HEAD_BYTES :=
  ⟨rfl, rfl⟩

theorem C20_zone_layout : Gen.Layout.zone = triples zoneLayout ∧ Gen.Layout.zoneBytes = ZONE_BYTES :=
  ⟨rfl, rfl⟩

/-- `renderByte` with every `String` in a closed term: the kernel re-runs `toString` and `String.toList`
on an open term for each byte, a closed term it converts once. -/
def renderChars (k : Kind) (b : Nat) : Option Smpl.Names.Name :=
  match k with
  | .u8 => some (Nat.toDigits 10 b)
  | .s8 => some (Smpl.Codec.intChars (Smpl.Akai.s8 b))
  | .bool => some (if b = 0 then "False".toList else "True".toList)
  | .note => some (Smpl.Codec.noteToString (Smpl.Codec.fromAkaiByte b))
  | .cents => some ("cents#".toList ++ Smpl.Codec.intChars (Smpl.Akai.s8 b))
  | .midich => some (if b = 255 then "Omni".toList else Nat.toDigits 10 b)
  | .aux => some (if b = 255 then "Off".toList else Nat.toDigits 10 b)
  | .enum names => (names.map String.toList)[b]?
  | .emap names d => some ((names.map String.toList)[b]?.getD d.toList)
  | _ => none

theorem renderByte_eq : renderByte = renderChars := by
  funext k b
  cases k <;>
    simp only [renderByte, renderChars, Names.natChars_eq, intName_eq, apply_ite String.toList,
      List.getElem?_map, Option.getD_map]

/-- every one-byte kind prints for each of the 256 stored values what the code prints … -/
theorem C20_kind_tables : Gen.Layout.tables = kinds.map kindTable := by
  unfold kindTable
  rw [renderByte_eq]
  -- `==` is evaluated faster than `DecidableEq`, which builds a proof at every number of the tables
  exact eq_of_beq (by decide +kernel)

/-- … and every one-byte field of the three structs is of the kind the code gives it. -/
theorem C20_header_shown : Gen.Layout.headerShown = shownTable headerLayout := by decide +kernel

theorem C20_keygroup_shown : Gen.Layout.keygroupHeadShown = shownTable keygroupHead := by decide +kernel

theorem C20_zone_shown : Gen.Layout.zoneShown = shownTable zoneLayout := by decide +kernel

def tiles : Nat → List Field → Option Nat
  | pos, [] => some pos
  | pos, f :: fs => if f.off = pos then tiles (pos + f.kind.size) fs else none

theorem C20_header_tiles : tiles 0 headerLayout = some 72 := by decide +kernel
theorem C20_keygroup_tiles : tiles 0 keygroupHead = some 34 := by decide +kernel
theorem C20_zone_tiles : tiles 0 zoneLayout = some 24 := by decide +kernel

theorem C20_keygroup_size : kgSize 4 = 150 := by decide

/-- kinds whose text identifies the byte: not switches (True for every non-zero byte) nor defaulting
maps (the default for every unknown byte); for enumerations see `C20_enum_names_distinct`. -/
def faithful : Kind → Bool
  | .u8 | .s8 | .note | .cents | .midich | .aux => true
  | _ => false

/-! reading the shown text back, as the harness does with the output of `ls` -/

def decNat (s : List Char) : Option Nat :=
  if s.isEmpty then none else
  s.foldl (fun acc c => acc.bind fun a =>
    if 48 ≤ c.toNat ∧ c.toNat ≤ 57 then some (a * 10 + (c.toNat - 48)) else none) (some 0)

def decInt (s : List Char) : Option Int :=
  match s with
  | c :: rest => if c.toNat = 45 then (decNat rest).map fun n => -(n : Int) else (decNat s).map fun n => (n : Int)
  | [] => none

def unS8 (i : Int) : Nat := if i < 0 then (i + 256).toNat else i.toNat

def decNote (s : List Char) : Option Nat :=
  match s with
  | d :: rest =>
    let (sharp, r2) := match rest with
      | c :: r => if c.toNat = 35 then (true, r) else (false, rest)
      | [] => (false, rest)
    (decInt r2).bind fun o => (Smpl.Codec.toAkaiByte ⟨d.toNat - 65, sharp, o⟩).map Int.toNat
  | [] => none

def readBack (k : Kind) (s : Smpl.Names.Name) : Option Nat :=
  match k with
  | .u8 => decNat s
  | .s8 => (decInt s).map unS8
  | .note => decNote s
  | .cents => (decInt (s.drop 6)).map unS8
  | .midich => if s.map Char.toNat = [79, 109, 110, 105] then some 255 else decNat s
  | .aux => if s.map Char.toNat = [79, 102, 102] then some 255 else decNat s
  | _ => none

theorem decNat_natChars (n : Nat) : decNat (Names.natChars n) = some n := by
  -- on digits the fold of `decNat` is core's `Nat.ofDigitChars`, the inverse of `Nat.toDigits`
  have fold : ∀ (l : List Char) (a : Nat), (∀ c ∈ l, 48 ≤ c.toNat ∧ c.toNat ≤ 57) →
      l.foldl (fun acc c => acc.bind fun a =>
        if 48 ≤ c.toNat ∧ c.toNat ≤ 57 then some (a * 10 + (c.toNat - 48)) else none) (some a)
      = some (Nat.ofDigitChars 10 l a) := by
    intro l
    induction l with
    | nil => intro a _; rfl
    | cons c cs ih =>
      intro a h
      simp only [List.foldl_cons, Option.bind_some, h c (List.mem_cons_self ..), and_self, if_true,
        Nat.ofDigitChars_cons]
      rw [ih _ fun x hx => h x (List.mem_cons_of_mem _ hx), Nat.mul_comm]; rfl
  have := fold _ 0 (Names.natChars_digit n)
  rw [Names.natChars_eq] at this ⊢
  simp [decNat, Nat.toDigits_ne_nil, this]

theorem decInt_intChars (i : Int) : decInt (Codec.intChars i) = some i := by
  cases i with
  | ofNat n =>
    -- a numeral does not start with `-`
    obtain ⟨c, r, h, hc⟩ := Names.natChars_head n
    have hc45 : c.toNat ≠ 45 := Nat.ne_of_gt (Nat.lt_of_lt_of_le (by decide) hc.1)
    rw [Codec.intChars_ofNat, h, decInt, if_neg hc45, ← h, decNat_natChars]; rfl
  | negSucc n => rw [Codec.intChars_negSucc, decInt, if_pos (by decide), decNat_natChars]; rfl

theorem decInt_intName (i : Int) : decInt (intName i) = some i := by
  rw [intName_eq, decInt_intChars]

theorem unS8_s8 {b : Nat} (hb : b < 256) : unS8 (Smpl.Akai.s8 b) = b := by
  unfold unS8 Smpl.Akai.s8
  by_cases h : b < 128
  · rw [if_pos h, if_neg (Int.not_lt.mpr (Int.natCast_nonneg b)), Int.toNat_natCast]
  · have hneg : (b : Int) - 256 < 0 := Int.sub_neg_of_lt (Int.ofNat_lt.mpr hb)
    rw [if_neg h, if_pos hneg, Int.sub_add_cancel, Int.toNat_natCast]

/-- a word that does not start with a digit (`Omni`, `Off`) is not taken for a numeral. -/
theorem readBack_word (n x : Nat) (w : List Nat) (hw : ∀ c ∈ w.head?, 57 < c) :
    (if (Names.natChars n).map Char.toNat = w then some x else decNat (Names.natChars n)) = some n := by
  obtain ⟨c, r, h, hc⟩ := Names.natChars_head n
  have : (Names.natChars n).map Char.toNat ≠ w := by
    rintro rfl; have := hw c.toNat (by simp [h]); omega
  rw [if_neg this, decNat_natChars]

theorem decNote_noteToString (x : Smpl.Codec.Note) (hd : x.degree < 7) :
    decNote (Smpl.Codec.noteToString x) = (Smpl.Codec.toAkaiByte x).map Int.toNat := by
  obtain ⟨d, s, o⟩ := x
  have hchar : (Smpl.Codec.degreeChar d).toNat - 65 = d :=
    (by decide : ∀ d < 7, (Smpl.Codec.degreeChar d).toNat - 65 = d) d hd
  cases s with
  | true => simp [Smpl.Codec.noteToString, decNote, decInt_intChars, hchar]
  | false =>
    -- the octave starts with a digit or `-`, so it is not taken for the sharp sign
    obtain ⟨c, r, h, hc⟩ : ∃ c r, Smpl.Codec.intChars o = c :: r ∧ c.toNat ≠ 35 := by
      cases o with
      | ofNat n =>
        obtain ⟨c, r, h, hc⟩ := Names.natChars_head n
        exact ⟨c, r, by rw [Codec.intChars_ofNat, h], Nat.ne_of_gt (Nat.lt_of_lt_of_le (by decide) hc.1)⟩
      | negSucc n => exact ⟨'-', _, rfl, by decide⟩
    simp only [Smpl.Codec.noteToString, decNote, Bool.false_eq_true, if_false, List.nil_append, h, hc]
    rw [← h, decInt_intChars]; simp [hchar]

/-- **C20 (the shown text reads back to the stored byte).** Only the two signed kinds use `b < 256`. -/
theorem C20_read_back (k : Kind) (hk : faithful k = true) (b : Nat) (hb : b < 256) :
    (renderByte k b).bind (readBack k) = some b := by
  cases k with
  | u8 => simpa [renderByte, readBack] using decNat_natChars b
  | s8 | cents => simp [renderByte, readBack, decInt_intName, unS8_s8 hb]
  | note =>
    simp [renderByte, readBack, decNote_noteToString (Codec.fromAkaiByte b) (C18.fromIntA0_degree _),
      C18.C18_note_akai_byte]
  | midich | aux =>
    by_cases h : b = 255
    · subst h; decide +kernel
    · simpa [renderByte, readBack, h] using readBack_word b 255 _ (by simp)
  | _ => cases hk

/-- **C20 (a wrong value cannot print the same).** -/
theorem C20_shown_determines_byte (k : Kind) (hk : faithful k = true) (a b : Nat) (ha : a < 256) (hb : b < 256)
    (he : renderByte k a = renderByte k b) : a = b := by
  have h1 := C20_read_back k hk a ha
  have h2 := C20_read_back k hk b hb
  rw [he, h2] at h1
  exact (Option.some.inj h1).symm

theorem C20_enum_names_distinct :
    priorityNames.Nodup ∧ reassignNames.Nodup ∧ zoneLoopNames.Nodup := by decide +kernel

theorem render_local {c c' : Smpl.Akai.Bytes} {base : Nat} {f : Field}
    (h : Smpl.Akai.rd c (base + f.off) f.kind.size = Smpl.Akai.rd c' (base + f.off) f.kind.size) :
    render c base f = render c' base f := by
  unfold render
  cases hk : f.kind <;> simp only [hk, Kind.size] at h <;> simp only [Smpl.Akai.uN, h]

/-- **C20 (no cross-talk).** What is shown for a field depends on the bytes of that field only. -/
theorem C20_field_local (c c' : Smpl.Akai.Bytes) (base : Nat) (f : Field)
    (h : ∀ n, Smpl.Akai.rd c (base + f.off) n = Smpl.Akai.rd c' (base + f.off) n) :
    render c base f = render c' base f :=
  render_local (h _)

open Smpl.Roland in
/-- the two printed parts of a Roland loop point are its 24-bit address and its low byte. -/
theorem C20_roland_point (raw : Nat) : raw = address raw * 256 + fine raw ∧ fine raw < 256 :=
  ⟨(Nat.div_add_mod' raw 256).symm, Nat.mod_lt raw (by decide)⟩

open Smpl.Roland in
theorem C20_roland_point_inj (a b : Nat) (h1 : address a = address b) (h2 : fine a = fine b) : a = b := by
  rw [(C20_roland_point a).1, (C20_roland_point b).1, h1, h2]

theorem C20_roland_freq :
    ((List.range 6).map Smpl.Roland.freqOf) = [some 48000, some 44100, some 24000, some 22050, some 30000, some 15000] := by
  decide +kernel

theorem C20_roland_modes : ((List.range 7).map Smpl.RolandTool.loopModeName).Nodup := by decide +kernel

end Smpl.Props.C20
