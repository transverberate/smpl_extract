/-
C01, the writer's side: a partition written as header fields, volume table, segment allocation table
and body; a disc of such partitions.
-/
import Smpl.Props.C01T

namespace Smpl.Props.C01
open Smpl Smpl.Akai Smpl.Alloc

structure VolImg where
  nameRaw : Bytes
  typeRaw : Nat
  start : Nat

def VolImg.byteAt (v : VolImg) (i : Nat) : Nat :=
  if i < 12 then v.nameRaw.getD i 0
  else if i < 14 then digit v.typeRaw (i - 12)
  else digit v.start (i - 14)

def VolImg.bytes (v : VolImg) : Bytes := (List.range 16).map v.byteAt
theorem VolImg.bytes_length (v : VolImg) : v.bytes.length = 16 := by simp [VolImg.bytes]

structure VolImg.Ok (v : VolImg) (name : Smpl.Names.Name) : Prop where
  len : v.nameRaw.length = 12
  name : akaiStr v.nameRaw = some name
  typeRaw : v.typeRaw < 65536 ∧ v.typeRaw % 4 ≠ 2
  start : v.start < 65536

def VolImg.toVol (v : VolImg) (name : Smpl.Names.Name) : VolEntry := ⟨name, v.typeRaw % 4, v.start⟩

theorem volSlot_written {v : VolImg} {name : Smpl.Names.Name} (hv : v.Ok name) (pre rest : Bytes) :
    rd (pre ++ (v.bytes ++ rest)) pre.length 12 = some v.nameRaw ∧
    uN (pre ++ (v.bytes ++ rest)) (pre.length + 12) 2 = some v.typeRaw ∧
    uN (pre ++ (v.bytes ++ rest)) (pre.length + 14) 2 = some v.start :=
  ⟨(rd_table pre rest 16 v.byteAt 0 12 (by decide)).trans (congrArg some (map_getD_range hv.len)),
   uN_table pre rest 16 v.byteAt 12 2 _ (by decide) rfl (le2 hv.typeRaw.1),
   uN_table pre rest 16 v.byteAt 14 2 _ (by decide) rfl (le2 hv.start)⟩

theorem parseVolEntries_written :
    ∀ (vs : List (VolImg × Smpl.Names.Name)) (pre rest : Bytes),
      (∀ x ∈ vs, x.1.Ok x.2) →
      parseVolEntries (pre ++ (vs.flatMap (fun x => x.1.bytes) ++ rest)) pre.length vs.length
        = some (vs.map fun x => x.1.toVol x.2) := by
  intro vs
  induction vs with
  | nil => intro pre rest _; rfl
  | cons x vs ih =>
    intro pre rest hok
    obtain ⟨v, name⟩ := x
    have hv : v.Ok name := hok _ (List.mem_cons_self ..)
    obtain ⟨h1, h2, h3⟩ := volSlot_written hv pre (vs.flatMap (fun x => x.1.bytes) ++ rest)
    have hrec := ih (pre ++ v.bytes) rest fun y hy => hok y (List.mem_cons_of_mem _ hy)
    rw [List.length_append, v.bytes_length, List.append_assoc] at hrec
    have hne : (v.typeRaw % 4 == 2) = false := by simpa using hv.typeRaw.2
    simp only [List.flatMap_cons, List.append_assoc, List.length_cons, parseVolEntries, VOL_ENTRY_BYTES, h1, hv.name, h2,
      h3, hne, hrec, bind, Option.bind, pure, Bool.false_eq_true, if_false, List.map_cons, VolImg.toVol]

def encWords (ws : List Nat) : Bytes := ws.flatMap fun w => [w % 256, w / 256]

theorem words16_encWords (ws : List Nat) (h : ∀ w ∈ ws, w < 65536) : words16 (encWords ws) = ws := by
  induction ws with
  | nil => rfl
  | cons w ws ih =>
    rw [encWords, List.flatMap_cons, ← encWords, List.cons_append, List.cons_append, List.nil_append,
      words16_cons, ih fun x hx => h x (List.mem_cons_of_mem _ hx)]

theorem encWords_length (ws : List Nat) : (encWords ws).length = 2 * ws.length :=
  (Smpl.Rows.flatMap_length (w := 2) fun _ _ => rfl).trans (Nat.mul_comm ..)

structure PartImg where
  size : Nat
  b198 : Bytes
  vols : List (VolImg × Smpl.Names.Name)
  sat : List Nat
  body : Bytes

def PartImg.volBytes (P : PartImg) : Bytes := P.vols.flatMap fun x => x.1.bytes

def PartImg.bytes (P : PartImg) : Bytes :=
  [digit P.size 0, digit P.size 1] ++ ([0, 0] ++ (MAGIC ++ (P.b198 ++ ([0x2F, 0x00] ++ (P.volBytes ++ (encWords P.sat ++ P.body))))))

structure PartImg.Ok (P : PartImg) (links : List Link) : Prop where
  size : 0 < P.size ∧ P.size < 65536
  b198 : P.b198.length = 2
  nvols : P.vols.length = VOL_ENTRIES
  vols : ∀ x ∈ P.vols, x.1.Ok x.2
  nsat : P.sat.length = SAT_ENTRIES
  sat : ∀ w ∈ P.sat, w < 65536
  decode : akaiDecode P.sat = .ok links
  total : P.bytes.length = P.size * SECTOR

theorem magic_length : MAGIC.length = 194 := by
  rw [MAGIC, Smpl.Rows.flatMap_length (w := 2) fun _ _ => rfl, List.length_range]

theorem volBytes_length (P : PartImg) : P.volBytes.length = P.vols.length * 16 :=
  Smpl.Rows.flatMap_length fun x _ => x.1.bytes_length

/-- **C01 (written partition).** A written partition (`PartImg.bytes`: the body fills the declared
size), placed anywhere in a file, parses to exactly the written volume slots and the decoded table;
its window is the written bytes, and the scan continues right after it. -/
theorem C01_written_partition (P : PartImg) (links : List Link) (hok : P.Ok links)
    (pre post : Bytes) (letter : Nat) :
    parsePartition (pre ++ (P.bytes ++ post)) pre.length letter
      = .ok (some (⟨letter, P.bytes, P.vols.map fun x => x.1.toVol x.2, links⟩, pre.length + P.size * SECTOR)) := by
  -- the file as its successive pieces: piece `i` sits at the sum of the lengths before it
  let ps : List Bytes := [[digit P.size 0, digit P.size 1], [0, 0], MAGIC, P.b198, [0x2F, 0x00], P.volBytes,
    encWords P.sat, P.body ++ post]
  have hfile : pre ++ (P.bytes ++ post) = pre ++ ps.flatten := by
    simp only [PartImg.bytes, ps, List.flatten_cons, List.flatten_nil, List.append_assoc, List.append_nil]
  have R := fun i x (hi : ps[i]? = some x) => rd_flatten pre hi
  have hsat : (encWords P.sat).length = 2 * SAT_ENTRIES := by rw [encWords_length, hok.nsat]
  have hvol : P.volBytes.length = VOL_ENTRIES * VOL_ENTRY_BYTES := by rw [volBytes_length, hok.nvols]; rfl
  have r0 := R 0 _ rfl; have r2 := R 1 _ rfl; have r4 := R 2 _ rfl; have r198 := R 3 _ rfl
  have r200 := R 4 _ rfl; have rv := R 5 _ rfl; have rs := R 6 _ rfl
  simp only [ps, List.take, List.map, List.sum_cons, List.sum_nil, List.length_cons, List.length_nil, magic_length,
    hok.b198, hvol, hsat, Nat.reduceAdd, Nat.add_zero, ← hfile] at r0 r2 r4 r198 r200 rv rs
  have rs' : rd (pre ++ (P.bytes ++ post)) (pre.length + HEADER_BYTES + VOL_ENTRIES * VOL_ENTRY_BYTES) (2 * SAT_ENTRIES)
      = some (encWords P.sat) := by rw [← rs, Nat.add_assoc]; rfl
  have rv' : parseVolEntries (pre ++ (P.bytes ++ post)) (pre.length + HEADER_BYTES) VOL_ENTRIES
      = some (P.vols.map fun x => x.1.toVol x.2) := by
    obtain ⟨H, T, hc, hH⟩ := rd_split rv
    rw [hc, show pre.length + HEADER_BYTES = H.length from hH.symm, ← hok.nvols]
    exact parseVolEntries_written P.vols H T hok.vols
  have hwin : ((pre ++ (P.bytes ++ post)).drop pre.length).take (P.size * SECTOR) = P.bytes := by
    rw [← hok.total]; exact (rd_eq_some (rd_piece pre P.bytes post)).2.symm
  rw [parsePartition_of_reads letter ((congrArg (Option.map leVal) r0).trans (congrArg some (le2 hok.size.2)))
    r2 r4 r198 r200 rv' rs' ((words16_encWords P.sat hok.sat).symm ▸ hok.decode) (Nat.ne_of_gt hok.size.1), hwin]

def toParts : Nat → List (PartImg × List Link) → List Part
  | _, [] => []
  | k, (P, links) :: rest => ⟨k, P.bytes, P.vols.map fun x => x.1.toVol x.2, links⟩ :: toParts (k + 1) rest

/-- **C01 (written disc).** A sequence of written partitions, after any prefix the scan has already
passed, is scanned into exactly those partitions, lettered consecutively. -/
theorem C01_written_disc : ∀ (Ps : List (PartImg × List Link)) (pre : Bytes) (k fuel : Nat),
    (∀ x ∈ Ps, x.1.Ok x.2) → Ps.length < fuel →
    partitions (pre ++ Ps.flatMap (fun x => x.1.bytes)) fuel pre.length k = .ok (toParts k Ps) := by
  intro Ps
  induction Ps with
  | nil =>
    intro pre k fuel _ hf
    obtain ⟨f, rfl⟩ := Nat.exists_eq_add_one.mpr (Nat.zero_lt_of_lt hf)
    simp [partitions, toParts]
  | cons x Ps ih =>
    intro pre k fuel hok hf
    obtain ⟨P, links⟩ := x
    obtain ⟨f, rfl⟩ := Nat.exists_eq_add_one.mpr (Nat.zero_lt_of_lt hf)
    have hP : P.Ok links := hok _ (List.mem_cons_self ..)
    have hpos : 0 < P.bytes.length := hP.total ▸ Nat.mul_pos hP.size.1 (by decide)
    have hrec := ih (pre ++ P.bytes) (k + 1) f (fun y hy => hok y (List.mem_cons_of_mem _ hy)) (by simpa using hf)
    rw [List.length_append, hP.total, List.append_assoc] at hrec
    simp only [partitions, List.flatMap_cons, List.length_append, Nat.lt_add_right_iff_pos, Nat.add_pos_left hpos, if_true,
      C01_written_partition P links hP pre _ k, hrec, toParts]

theorem disc_length_ge : ∀ (Ps : List (PartImg × List Link)), (∀ x ∈ Ps, x.1.Ok x.2) →
    Ps.length * SECTOR ≤ (Ps.flatMap fun x => x.1.bytes).length
  | [], _ => Nat.le_refl _
  | x :: Ps, hok => by
    have hx := hok x (List.mem_cons_self ..)
    have := disc_length_ge Ps fun y hy => hok y (List.mem_cons_of_mem _ hy)
    have h1 : SECTOR ≤ x.1.size * SECTOR := Nat.le_mul_of_pos_left _ hx.size.1
    rw [List.flatMap_cons, List.length_append, List.length_cons, hx.total, Nat.succ_mul, Nat.add_comm]
    exact Nat.add_le_add h1 this

/-- **C01 (tree of a written disc).** The directory tree the tool builds from a sequence of written
partitions is the tree of exactly those partitions, `A:`, `B:`, … in order (`C01_written_volume` for
each volume, `C01_written_sample` for each sample file). -/
theorem C01_written_tree (Ps : List (PartImg × List Link)) (hok : ∀ x ∈ Ps, x.1.Ok x.2)
    (programOk : Bytes → Bool) :
    tree (Ps.flatMap fun x => x.1.bytes) programOk = tree.go programOk (toParts 0 Ps) := by
  have hscan := C01_written_disc Ps [] 0 ((Ps.flatMap fun x => x.1.bytes).length / SECTOR + 2) hok (by
    have := disc_length_ge Ps hok
    have : Ps.length ≤ (Ps.flatMap fun x => x.1.bytes).length / SECTOR :=
      (Nat.le_div_iff_mul_le (by decide)).mpr this
    exact Nat.lt_succ_of_lt (Nat.lt_succ_of_le this))
  simp only [List.nil_append, List.length_nil] at hscan
  unfold tree
  rw [hscan]

end Smpl.Props.C01
