/-
C07 — AKAI SAT decoding is complete: a chain that is well formed in the raw SAT is installed whole,
whatever the rest of the table holds.
-/
import Smpl.Props.C07A

namespace Smpl.Props.C07
open Smpl Smpl.Alloc

/-- the link a SAT word denotes for a file sector. -/
def aOfWord (v : Nat) : Link := if v = SAT_EOF then ⟨0, true⟩ else ⟨v, false⟩

/-- a word that continues a file chain. -/
def isPlain (size v : Nat) : Prop := v ≠ SAT_FREE ∧ isDirWord v = false ∧ v ≠ SAT_EOF ∧ v < size

/-- `c` is a file chain of the raw SAT. -/
def ARawChain (words : Array Nat) : List Nat → Prop
  | [] => False
  | [a] => words[a]? = some SAT_EOF
  | a :: b :: rest => (words[a]? = some b ∧ isPlain words.size b) ∧ ARawChain words (b :: rest)

def SStep (words : Array Nat) (a b : Nat) : Prop := words[a]? = some b ∧ isPlain words.size b
def SEnd (words : Array Nat) (a : Nat) : Prop := words[a]? = some SAT_EOF

theorem arawChain_iff {words : Array Nat} {c : List Nat} :
    ARawChain words c ↔ c ≠ [] ∧ Path (SStep words) (SEnd words) c := by
  induction c using Path.induct with
  | case1 => exact ⟨False.elim, fun h => h.1 rfl⟩
  | case2 a => exact ⟨fun h => ⟨List.cons_ne_nil _ _, h⟩, fun h => h.2⟩
  | case3 a b r ih =>
    exact ⟨fun h => ⟨List.cons_ne_nil _ _, h.1, (ih.mp h.2).2⟩, fun h => ⟨h.2.1, ih.mpr ⟨List.cons_ne_nil _ _, h.2.2⟩⟩⟩

theorem arawChain_mem {words : Array Nat} {c : List Nat} (h : ARawChain words c) {x : Nat} (hx : x ∈ c) :
    words[x]? = some SAT_EOF ∨ ∃ b, words[x]? = some b ∧ isPlain words.size b ∧ b ∈ c :=
  ((arawChain_iff.mp h).2.end_or_step hx).imp id fun ⟨b, hb, hs⟩ => ⟨b, hs.1, hs.2, hb⟩

theorem arawChain_lt {words : Array Nat} {c : List Nat} (h : ARawChain words c) {x : Nat} (hx : x ∈ c) :
    x < words.size := by
  rcases arawChain_mem h hx with h | ⟨_, h, _⟩ <;> exact lt_of_getElem? h

theorem arawChain_nodup (words : Array Nat) : ∀ c, ARawChain words c → c.Nodup :=
  fun _ h => (arawChain_iff.mp h).2.nodup (fun _ _ _ h h' => Option.some.inj (h.1.symm.trans h'.1))
    (fun _ _ h h' => h.2.2.2.1 (Option.some.inj (h.1.symm.trans h')))

theorem arawChain_length {words : Array Nat} {c : List Nat} (hc : ARawChain words c) : c.length ≤ words.size :=
  nodup_length_le (arawChain_nodup words c hc) fun _ => arawChain_lt hc

def AInst (words : Array Nat) (links : List Link) (x : Nat) : Prop :=
  ∃ v, words[x]? = some v ∧ links[x]? = some (aOfWord v)

/-- A walked path respects the chain `c`: a sector of `c` on it is followed by the sector its word names.
`CRev` is the same for the walk's list, newest sector first. -/
def CPath (words : Array Nat) (c : List Nat) : List Nat → Prop
  | [] => True
  | [_] => True
  | a :: b :: rest => (a ∈ c → words[a]? = some b ∧ b ≠ SAT_EOF) ∧ CPath words c (b :: rest)

def CRev (words : Array Nat) (c : List Nat) : List Nat → Nat → Prop
  | [], _ => True
  | a :: rest, sub => (a ∈ c → words[a]? = some sub ∧ sub ≠ SAT_EOF) ∧ CRev words c rest a

def CStep (words : Array Nat) (c : List Nat) (a b : Nat) : Prop := a ∈ c → words[a]? = some b ∧ b ≠ SAT_EOF

theorem cpath_iff {words : Array Nat} {c : List Nat} : ∀ {p}, CPath words c p ↔ Path (CStep words c) Any p
  | [] => Iff.rfl
  | [_] => Iff.rfl
  | _ :: _ :: _ => and_congr Iff.rfl cpath_iff

theorem crev_iff {words : Array Nat} {c : List Nat} :
    ∀ {lst sub}, CRev words c lst sub ↔ Path (fun b a => CStep words c a b) Any (sub :: lst)
  | [], _ => Iff.rfl
  | _ :: _, _ => and_congr Iff.rfl crev_iff

theorem cpath_of_rev {words : Array Nat} {c lst : List Nat} {sub : Nat} (h : CRev words c lst sub) :
    CPath words c (sub :: lst).reverse :=
  cpath_iff.mpr (crev_iff.mp h).reverse

/-- `addLinks` leaves every chain sector but the path's last with the link of its word, whether it was
installed before or lies on the path. -/
theorem addLinks_c (words : Array Nat) (c : List Nat) :
    ∀ (p : List Nat) (links ls : List Link), CPath words c p → addLinks p links = .ok ls →
      ∀ x ∈ c, p.getLast? ≠ some x → (x ∈ p ∨ AInst words links x) → AInst words ls x := by
  intro p links ls hp he x hxc hl hx
  rcases (addLinks_spec (cpath_iff.mp hp) he).2 x with ⟨hm, e⟩ | ⟨hl', _⟩ | ⟨_, _, b, hb, e⟩
  · obtain ⟨v, hv, hlk⟩ := hx.resolve_left hm
    exact ⟨v, hv, e ▸ hlk⟩
  · exact absurd hl' hl
  · exact ⟨b, (hb hxc).1, by rw [e, aOfWord, if_neg (hb hxc).2]⟩

theorem member_word {words : Array Nat} {c : List Nat} (hc : ARawChain words c)
    {sub v : Nat} (hs : sub ∈ c) (hw : words[sub]? = some v) :
    v ≠ SAT_FREE ∧ isDirWord v = false ∧ (v = SAT_EOF ∨ (v < words.size ∧ v ∈ c)) := by
  rcases arawChain_mem hc hs with h | ⟨b, hb, hp, hbc⟩
  · cases hw.symm.trans h
    exact ⟨by decide, by decide, Or.inl rfl⟩
  · cases hw.symm.trans hb
    exact ⟨hp.1, hp.2.1, Or.inr ⟨hp.2.2.2, hbc⟩⟩

/-- Invariant of the inner walk: a flagged sector of the raw chain `c` is on the list or has its link; once
the list holds a sector of `c`, the walk is at a sector of `c` and `prevDir` is off (`foc`). -/
structure WInv (words : Array Nat) (c : List Nat) (st : AkaiSt) (lst : List Nat) (sub : Nat) : Prop where
  inst : ∀ x ∈ c, st.dirty[x]? = some true → x ∈ lst ∨ AInst words st.links x
  rev  : CRev words c lst sub
  foc  : (∃ x ∈ lst, x ∈ c) → sub ∈ c ∧ st.prevDir = false
  len  : st.links.length = words.size

structure WPost (words : Array Nat) (c : List Nat) (st' : AkaiSt) : Prop where
  inst : ∀ x ∈ c, st'.dirty[x]? = some true → AInst words st'.links x
  len  : st'.links.length = words.size

theorem dirty_set_cases {d : Array Bool} {sub x : Nat} (h : (d.setIfInBounds sub true)[x]? = some true) :
    x = sub ∨ d[x]? = some true := by
  by_cases e : sub = x
  · exact Or.inl e.symm
  · rw [Array.getElem?_setIfInBounds_ne e] at h; exact Or.inr h

/-- The walk ends with nothing of the chain on its list: what was installed stays. -/
theorem WInv.post_off {words : Array Nat} {c : List Nat} {st st' : AkaiSt} {lst : List Nat} {sub : Nat}
    (hinv : WInv words c st lst sub) (hoff : sub ∉ c ∨ st.prevDir = true)
    (hd : ∀ x ∈ c, st'.dirty[x]? = some true → st.dirty[x]? = some true)
    (hl : ∀ x ∈ c, x ∉ lst → st'.links[x]? = st.links[x]?) (hlen : st'.links.length = st.links.length) :
    WPost words c st' := by
  have hdisj : ∀ x ∈ lst, x ∉ c := fun x hx hxc => by
    obtain ⟨h1, h2⟩ := hinv.foc ⟨x, hx, hxc⟩
    exact hoff.elim (· h1) (fun h => by rw [h2] at h; cases h)
  refine ⟨fun x hx h => ?_, hlen.trans hinv.len⟩
  rcases hinv.inst x hx (hd x hx h) with h' | ⟨v, hv, hi⟩
  · exact absurd hx (hdisj x h')
  · exact ⟨v, hv, hl x hx (fun h' => hdisj x h' hx) ▸ hi⟩

/-- The walk ends by installing its list with the current sector; that sector's own link is `hsub`. -/
theorem WInv.post_on {words : Array Nat} {c : List Nat} {st st' : AkaiSt} {lst : List Nat} {sub : Nat}
    (hinv : WInv words c st lst sub) {ls : List Link}
    (hadd : addLinks (sub :: lst).reverse st.links = .ok ls)
    (hd : st'.dirty = st.dirty.setIfInBounds sub true) (hsub : sub ∈ c → AInst words st'.links sub)
    (hl : ∀ x, x ≠ sub → st'.links[x]? = ls[x]?) (hlen : st'.links.length = ls.length) :
    WPost words c st' := by
  refine ⟨fun x hx h => ?_, by rw [hlen, addLinks_length hadd]; exact hinv.len⟩
  by_cases e : x = sub
  · exact e ▸ hsub (e ▸ hx)
  · obtain ⟨v, hv, hi⟩ := addLinks_c words c _ _ ls (cpath_of_rev hinv.rev) hadd x hx
      (by simpa using fun e' : sub = x => e e'.symm)
      ((dirty_set_cases (hd ▸ h)).elim (absurd · e) fun h => (hinv.inst x hx h).imp (by simp [·]) id)
    exact ⟨v, hv, hl x e ▸ hi⟩

theorem akaiWalk_complete (words : Array Nat) (c : List Nat) (hc : ARawChain words c)
    (hsize : words.size ≤ SAT_EOF) (st : AkaiSt) (lst : List Nat) (sub : Nat) :
    ∀ st', WInv words c st lst sub → akaiWalk words st lst sub = .ok st' → WPost words c st' := by
  -- cases numbered as in `akaiWalk_spec` (Props/C07A)
  fun_induction akaiWalk words st lst sub <;> intro st' hinv he
  case case1 st lst sub hw =>
    cases he
    refine hinv.post_off (.inl fun hs => ?_) (fun _ _ h => h) (fun _ _ _ => rfl) rfl
    rcases arawChain_mem hc hs with h | ⟨_, h, _⟩ <;> cases hw.symm.trans h
  case case2 st lst sub v hw curDir hcond ls hadd =>
    simp only [List.unattach_reverse, List.unattach_attach] at hadd he
    rw [hadd] at he
    cases he
    simp only [Bool.and_eq_true] at hcond
    exact hinv.post_off (.inr hcond.1.2) (fun _ _ h => h) (fun x _ hx => addLinks_of_not_mem hadd (by simpa using hx))
      (addLinks_length hadd)
  case case3 hadd =>
    simp only [List.unattach_reverse, List.unattach_attach] at hadd he
    rw [hadd] at he
    cases he
  case case4 st lst sub size v hw curDir hc1 hc2 dirty' hc3 ls hadd =>
    cases he
    have hsublt : sub < ls.length := by rw [addLinks_length hadd, hinv.len]; exact lt_of_getElem? hw
    refine hinv.post_on hadd rfl (fun _ => ⟨v, hw, ?_⟩) (fun x e => List.getElem?_set_ne (Ne.symm e)) (by simp)
    -- `v < size ≤ 0xC000` (`hsize`), so `v` is not the end mark
    have hvne : v ≠ SAT_EOF := by
      simp only [Bool.and_eq_true, bne_iff_ne, ne_eq] at hc3
      simp only [Bool.or_eq_true, beq_iff_eq, Bool.and_eq_true, decide_eq_true_eq] at hc2
      rcases hc2 with h | h
      · exact absurd h hc3.1
      · intro e; rw [e] at h; exact absurd h.1 (Nat.not_lt.mpr hsize)
    simp [aOfWord, hvne, hsublt]
  case case6 st lst sub size v hw curDir hc1 hc2 dirty' hc3 =>
    cases he
    have hsubc : sub ∉ c := fun hs => by
      obtain ⟨h1, h2, _⟩ := member_word hc hs hw
      exact hc3 (by simp [curDir, h1, h2])
    exact hinv.post_off (.inl hsubc)
      (fun x hx h => (dirty_set_cases h).resolve_left fun e => hsubc (e ▸ hx)) (fun _ _ _ => rfl) rfl
  case case7 st lst sub size v hw curDir hc1 hc2 hc3 ls hadd =>
    cases he
    refine hinv.post_on hadd rfl (fun _ => ⟨v, hw, ?_⟩) (fun _ _ => rfl) rfl
    rw [addLinks_getLast hadd (z := sub) (by simp)]
    simp [aOfWord, show v = SAT_EOF by simpa using hc3]
  case case9 st lst sub size v hw curDir hc1 hc2 hc3 st1 next hlt ih =>
    apply ih st' _ he
    have hvne : v ≠ SAT_EOF := by simpa using hc3
    have hstep : sub ∈ c → next = v ∧ v ∈ c ∧ curDir = false := by
      intro hs
      obtain ⟨_, h2, h3⟩ := member_word hc hs hw
      rcases h3 with h3 | h3
      · exact absurd h3 hvne
      · exact ⟨by simp [next, curDir, h2], h3.2, h2⟩
    refine ⟨?_, ⟨?_, hinv.rev⟩, ?_, hinv.len⟩
    · intro x hx hd
      rcases dirty_set_cases hd with h | h
      · left; simp [h]
      · exact (hinv.inst x hx h).imp (by simp [·]) id
    · intro hs
      rw [(hstep hs).1]
      exact ⟨hw, hvne⟩
    · rintro ⟨x, hx, hxc⟩
      have hs : sub ∈ c := by
        rcases List.mem_cons.mp hx with rfl | hx'
        · exact hxc
        · exact (hinv.foc ⟨x, hx', hxc⟩).1
      obtain ⟨hn, hvc, hcd⟩ := hstep hs
      exact ⟨by rw [hn]; exact hvc, hcd⟩
  case case10 st lst sub size v hw curDir hc1 hc2 hc3 st1 next hlt hdir ls hadd =>
    cases he
    have hsubc : sub ∉ c := fun hs => by
      obtain ⟨_, h2, _⟩ := member_word hc hs hw
      simp [curDir, h2] at hdir
    exact hinv.post_off (.inl hsubc)
      (fun x hx h => (dirty_set_cases h).resolve_left fun e => hsubc (e ▸ hx))
      (fun x hx hxl => addLinks_of_not_mem hadd (by simpa [hxl] using fun e : x = sub => hsubc (e ▸ hx)))
      (addLinks_length hadd)
  case case12 st lst sub size v hw curDir hc1 hc2 hc3 st1 next hlt hndir =>
    cases he
    have hsubc : sub ∉ c := fun hs => by
      obtain ⟨_, h2, h3⟩ := member_word hc hs hw
      rcases h3 with h3 | h3
      · exact hc3 (beq_iff_eq.mpr h3)
      · exact hlt (by simpa [next, curDir, h2, size] using h3.1)
    exact hinv.post_off (.inl hsubc)
      (fun x hx h => (dirty_set_cases h).resolve_left fun e => hsubc (e ▸ hx)) (fun _ _ _ => rfl) rfl
  all_goals cases he

theorem achain_of_installed {words : Array Nat} {links : List Link} {c : List Nat} (hc : ARawChain words c)
    (hi : ∀ x ∈ c, AInst words links x) : Chain links c := by
  obtain ⟨hne, hp⟩ := arawChain_iff.mp hc
  refine chain_iff.mpr ⟨hne, hp.imp_mem ?_ ?_⟩
  · intro a ha b hs
    obtain ⟨v, hv, hl⟩ := hi a ha
    cases hv.symm.trans hs.1
    rw [aOfWord, if_neg hs.2.2.2.1] at hl
    exact ⟨_, hl, rfl, rfl⟩
  · intro a ha hs
    obtain ⟨v, hv, hl⟩ := hi a (List.mem_of_getLast? ha)
    cases hv.symm.trans hs
    exact ⟨_, hl, rfl⟩

/-- **AKAI SAT decoding is complete for well-formed chains.** If the raw SAT (at most 0xC000 entries; the
real table has 11386) holds a file chain `c` — each sector's word names the next, the last one's is the
end mark `0xC000` — and the decoder accepts the table, the decoded table contains `c` as a chain and
`get_path` from its head resolves exactly `c`. Nothing is assumed about the rest of the table. -/
theorem C07_akai_wf (words : List Nat) (links : List Link) (h : akaiDecode words = .ok links)
    (hsize : words.length ≤ SAT_EOF)
    (c : List Nat) (hc : ARawChain words.toArray c) :
    Chain links c ∧ getPath links words.length (c.headD 0) = .ok c := by
  -- every visited sector of the chain carries its link; in the end every sector has been visited
  obtain ⟨st, hb, hinst, rfl⟩ := akaiDecode_inv
    (fun _ st => ∀ x ∈ c, st.dirty[x]? = some true → AInst words.toArray st.links x)
    (fun x _ hx => by rw [Array.getElem?_replicate] at hx; split at hx <;> cases hx)
    (fun _ _ h _ => h)
    (fun i st st' _ hb _ hI _ he => (akaiWalk_complete words.toArray c hc hsize st [] i st'
      ⟨fun x hx h => .inr (hI x hx h), trivial, (fun ⟨_, hx, _⟩ => absurd hx List.not_mem_nil), hb.len⟩ he).inst) h
  have hlt : ∀ x ∈ c, x < words.length := fun x hx => arawChain_lt hc hx
  have hchain := achain_of_installed hc fun x hx => hinst x hx (hb.below x (hlt x hx) (hlt x hx))
  exact ⟨hchain, C07_getPath_wf _ _ c hchain (arawChain_length hc)⟩

/-- premises satisfiable: a chain 3 → 5 → 4 (head not the lowest sector) beside a directory run and a free
sector. -/
example : ARawChain #[0x4000, 0xC000, 0, 5, 0xC000, 4] [3, 5, 4] := by
  simp only [ARawChain, isPlain]
  decide +kernel

end Smpl.Props.C07
