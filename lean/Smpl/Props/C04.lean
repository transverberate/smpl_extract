/-
C04 — Every exported file is a structurally valid RIFF/WAVE PCM file.
-/
import Smpl.Model.Wav
import Smpl.Spec.Riff

namespace Smpl.Props.C04
open Smpl Smpl.Wav Smpl.Spec.Riff

theorem expect_append (tag r : List Nat) : expect tag (tag ++ r) = some r := by
  simp [expect]

theorem takeN_append {n : Nat} {a : List Nat} (h : a.length = n) (r : List Nat) :
    takeN n (a ++ r) = some (a, r) := by
  subst h; simp [takeN]

theorem readLe_append {n : Nat} {a : List Nat} (h : a.length = n) (r : List Nat) :
    readLe n (a ++ r) = some (le a, r) := by
  simp [readLe, takeN_append h]

theorem readLe_bind {β : Type} {n : Nat} {a : List Nat} (h : a.length = n) (r : List Nat)
    (f : Nat × List Nat → Option β) : readLe n (a ++ r) >>= f = f (le a, r) := by
  rw [readLe_append h]; rfl

theorem bind_ok {α β : Type} {x : Except Err α} {f : α → Except Err β} {b : β} :
    x >>= f = .ok b ↔ ∃ a, x = .ok a ∧ f a = .ok b := by
  cases x <;> simp [bind, Except.bind]

theorem pure_ok {α : Type} {a b : α} : (pure a : Except Err α) = .ok b ↔ a = b := by
  simp [pure, Except.pure]

theorem le_cons_mod {n : Nat} {bs : List Nat} (h : le bs = n / 256) : le (n % 256 :: bs) = n := by
  rw [le, h, Nat.mod_add_div]

theorem le_cons_div {n d : Nat} {bs : List Nat} (h : le bs = n / (d * 256)) :
    le (n / d % 256 :: bs) = n / d :=
  le_cons_mod (h.trans (Nat.div_div_eq_div_mul n d 256).symm)

theorem u32n_ok {v : Nat} {bs : List Nat} (h : u32n v = .ok bs) :
    bs.length = 4 ∧ le bs = v := by
  unfold u32n at h
  split at h <;> cases h
  exact ⟨rfl, le_cons_mod (le_cons_div (le_cons_div rfl))⟩

theorem u16n_ok {v : Nat} {bs : List Nat} (h : u16n v = .ok bs) :
    bs.length = 2 ∧ le bs = v := by
  unfold u16n at h
  split at h <;> cases h
  exact ⟨rfl, le_cons_mod rfl⟩

theorem u32_ok {v : Int} {bs : List Nat} (h : u32 v = .ok bs) :
    bs.length = 4 ∧ (le bs : Int) = v := by
  by_cases hv : 0 ≤ v
  · rw [u32, if_pos hv] at h
    obtain ⟨h1, h2⟩ := u32n_ok h
    exact ⟨h1, h2 ▸ Int.toNat_of_nonneg hv⟩
  · rw [u32, if_neg hv] at h
    cases h

theorem chunk_ok {id body bs : List Nat} (h : chunk id body = .ok bs) :
    ∃ n, bs = id ++ n ++ body ∧ n.length = 4 ∧ le n = body.length := by
  simp only [chunk, bind_ok, pure_ok] at h
  obtain ⟨n, hn, rfl⟩ := h
  exact ⟨n, rfl, u32n_ok hn⟩

theorem loopBody_length {l : Loop} {bs : List Nat} (h : loopBody l = .ok bs) : bs.length = 24 := by
  simp only [loopBody, bind_ok, pure_ok] at h
  obtain ⟨a, ha, b, hb, c, hc, d, hd, e, he, f, hf, rfl⟩ := h
  simp only [List.length_append, (u32_ok ha).1, (u32_ok hb).1, (u32_ok hc).1, (u32_ok hd).1,
    (u32_ok he).1, (u32_ok hf).1]

theorem loopsBody_length {ls : List Loop} {bs : List Nat} (h : loopsBody ls = .ok bs) :
    bs.length = 24 * ls.length := by
  induction ls generalizing bs with
  | nil => cases h; rfl
  | cons l ls ih =>
    simp only [loopsBody, bind_ok, pure_ok] at h
    obtain ⟨a, ha, r, hr, rfl⟩ := h
    rw [List.length_append, List.length_cons, loopBody_length ha, ih hr, Nat.mul_add_one, Nat.add_comm]

/-- **C04 (smpl size).** The `smpl` body is 36 + 24 × (number of loops) bytes long and the loop
count it declares (bytes 28..31) is that number. -/
theorem C04_smpl_size {s : Smpl} {bs : List Nat} (h : smplBody s = .ok bs) :
    bs.length = 36 + 24 * s.loops.length ∧ smplOk bs = true := by
  simp only [smplBody, bind_ok, pure_ok] at h
  obtain ⟨z, hz, p, hp, n, hn, f, hf, cnt, hc, ls, hl, rfl⟩ := h
  have lz := (u32_ok hz).1
  have lp := (u32_ok hp).1
  have ln := (u32_ok hn).1
  have lf := (u32_ok hf).1
  obtain ⟨lc, vc⟩ := u32n_ok hc
  have hlen : (z ++ z ++ p ++ n ++ f ++ z ++ z ++ cnt ++ z ++ ls).length = 36 + 24 * s.loops.length := by
    simp only [List.length_append, lz, lp, ln, lf, lc, loopsBody_length hl]
  refine ⟨hlen, ?_⟩
  have h28 : (z ++ z ++ p ++ n ++ f ++ z ++ z).length = 28 := by
    simp only [List.length_append, lz, lp, ln, lf]
  unfold smplOk
  rw [hlen, List.append_assoc, List.append_assoc, takeN_append h28]
  simp [readLe_append lc, vc]

theorem fmt_ok {m : Meta} {bs : List Nat} (h : fmtBody m = .ok bs) (hb : m.bits = 16) :
    bs.length = 16 ∧ fmtOk bs = some (m.channels * 2) := by
  simp only [fmtBody, bind_ok, pure_ok] at h
  obtain ⟨a, ha, c, hc, r, hr, br, hbr, ba, hba, b, hbi, rfl⟩ := h
  obtain ⟨la, va⟩ := u16n_ok ha
  obtain ⟨lc, vc⟩ := u16n_ok hc
  obtain ⟨lr, vr⟩ := u32n_ok hr
  obtain ⟨lbr, vbr⟩ := u32n_ok hbr
  obtain ⟨lba, vba⟩ := u16n_ok hba
  obtain ⟨lb, vb⟩ := u16n_ok hbi
  refine ⟨by simp only [List.length_append, la, lc, lr, lbr, lba, lb], ?_⟩
  have bytes (x : Nat) : x * 16 / 8 = x * 2 := Nat.mul_div_assoc x ⟨2, rfl⟩
  rw [hb, bytes] at vbr vba
  rw [hb] at vb
  rw [← List.append_nil b]
  simp only [List.append_assoc]
  -- `↓`: a read is rewritten together with its `>>=`, before `simp` walks the continuation
  simp only [fmtOk, ↓readLe_bind la, ↓readLe_bind lc, ↓readLe_bind lr, ↓readLe_bind lbr,
    ↓readLe_bind lba, ↓readLe_bind lb, va, vc, vr, vbr, vba, vb]
  simp only [Nat.mul_assoc, and_self, if_true]

theorem fmtChunk_ok {m : Meta} {f fc : List Nat} (hf : fmtBody m = .ok f) (hfc : chunk FMT f = .ok fc)
    (hb : m.bits = 16) (r : List Nat) : fmtChunk (fc ++ r) = some (m.channels * 2, r) := by
  obtain ⟨n, rfl, ln, vn⟩ := chunk_ok hfc
  obtain ⟨lf, hok⟩ := fmt_ok hf hb
  simp only [fmtChunk, List.append_assoc, show FMT = tagFmt from rfl, expect_append, readLe_append ln,
    vn, lf, ne_eq, not_true_eq_false, if_false, takeN_append lf, hok]

theorem skipSmpl_ok {s : Smpl} {sb sc : List Nat} (hsb : smplBody s = .ok sb) (hsc : chunk SMPL sb = .ok sc)
    (r : List Nat) : skipSmpl (sc ++ r) = some r := by
  obtain ⟨n, rfl, ln, vn⟩ := chunk_ok hsc
  simp only [skipSmpl, List.append_assoc, show SMPL = tagSmpl from rfl, expect_append,
    readLe_append ln, vn, takeN_append rfl, (C04_smpl_size hsb).2, if_true]

theorem dataOk_ok {pcm dc : List Nat} {ba : Nat} (hdc : chunk DATA pcm = .ok dc) (hba : 0 < ba)
    (hal : pcm.length % ba = 0) : dataOk ba dc = true := by
  obtain ⟨n, rfl, ln, vn⟩ := chunk_ok hdc
  simp [dataOk, show DATA = tagData from rfl, expect_append, readLe_append ln, vn, hba, hal]

/-- **C04.** Every file the builder produces for 16-bit PCM whose data is a whole number of frames
passes the independent validator: RIFF size = length − 8; a 16-byte PCM `fmt ` chunk, an
optional `smpl` chunk of size 36 + 24 × its loop count and a `data` chunk, in that order, their sizes
adding up to the file; block align = channels × 2; byte rate = rate × block align. -/
theorem C04_wellformed (m : Meta) (pcm bs : List Nat) (h : buildWav m pcm = .ok bs)
    (hbits : m.bits = 16) (hch : 0 < m.channels) (hal : pcm.length % (m.channels * 2) = 0) :
    wellFormed bs = true := by
  simp only [buildWav, bind_ok] at h
  obtain ⟨f, hf, fc, hfc, h⟩ := h
  -- `sc` is the optional smpl chunk: the `do` block repeats the rest of the builder in both arms of
  -- the match on `m.smpl`, and this joins them again
  obtain ⟨sc, dc, tn, hs, hdc, htn, rfl⟩ : ∃ sc dc tn, skipSmpl (sc ++ dc) = some dc ∧
      chunk DATA pcm = .ok dc ∧ u32n (WAVE ++ fc ++ sc ++ dc).length = .ok tn ∧
      RIFF ++ tn ++ (WAVE ++ fc ++ sc ++ dc) = bs := by
    split at h <;> simp only [bind_ok, pure_ok, exists_eq_left'] at h
    · obtain ⟨dc, hdc, tn, h⟩ := h
      have : skipSmpl dc = some dc := by obtain ⟨n, rfl, -⟩ := chunk_ok hdc; rfl
      exact ⟨[], dc, tn, this, hdc, h⟩
    · obtain ⟨sb, hsb, sc, hsc, dc, hdc, tn, h⟩ := h
      exact ⟨sc, dc, tn, skipSmpl_ok hsb hsc dc, hdc, h⟩
  obtain ⟨ltn, vtn⟩ := u32n_ok htn
  simp only [wellFormed, List.append_assoc, show RIFF = tagRIFF from rfl, show WAVE = tagWAVE from rfl,
    expect_append, readLe_append ltn, vtn, fmtChunk_ok hf hfc hbits, hs,
    dataOk_ok hdc (Nat.mul_pos hch Nat.two_pos) hal, Bool.and_true, beq_iff_eq]
  simp only [List.length_append, ltn, show tagRIFF.length = 4 from rfl]
  exact (Nat.add_comm _ 8).trans (Nat.add_assoc 4 4 _)

-- non-vacuity: a mono file with one loop
example : (buildWav ⟨1, 44100, 16, some ⟨22676, 60, 0, [⟨0, 0, 10, 20, 0, 3⟩]⟩⟩ [1, 2, 3, 4]).toOption.map wellFormed
    = some true := by decide +kernel

/-- the unity note written into the `smpl` chunk is a MIDI note number whatever the root note and
tuning of the sample (the clamp of fix D15). -/
theorem C04_unity_note_range (g : GenSample) (s : Smpl) (h : smplOf g = some s) :
    0 ≤ s.note ∧ s.note ≤ 127 := by
  rw [smplOf, Option.ite_none_left_eq_some] at h
  obtain ⟨-, h⟩ := h
  simp only [Option.some.injEq] at h
  subst h
  simp only
  generalize _ + (normalizedPitch _ _).fst = raw
  omega

end Smpl.Props.C04
