/-
C02, the writer's side: a sample's 32-byte directory record and 48-byte parameter record, written
field by field; composed with the raw FAT chain and the export of the window.
-/
import Smpl.Props.C02S
import Smpl.Props.C01W

namespace Smpl.Props.C02
open Smpl Smpl.Roland
open Smpl.Akai (rd_piece map_getD_range)
open Smpl.Props.C01 (digit le2 le4)

structure SampleImg where
  dname : Bytes            -- 16 name bytes of the directory record
  ftype : Nat
  fatEntry : Nat
  pname : Bytes            -- 16 name bytes of the parameter record
  points : Nat → Nat       -- five raw 32-bit loop points (address * 256 + fine)
  loopMode : Nat
  susEnable : Nat
  susTune : Nat
  relTune : Nat
  clusterTop : Nat
  options : Nat
  key : Nat
  dfill : Nat → Nat        -- directory bytes 17..27, 30, 31
  pfill : Nat → Nat        -- parameter bytes 42, 43, 46, 47

def SampleImg.dirAt (s : SampleImg) (i : Nat) : Nat :=
  if i < 16 then s.dname.getD i 0
  else if i = 16 then s.ftype
  else if 28 ≤ i ∧ i < 30 then digit s.fatEntry (i - 28)
  else s.dfill i

def SampleImg.parAt (s : SampleImg) (i : Nat) : Nat :=
  if i < 16 then s.pname.getD i 0
  else if 16 ≤ i ∧ i < 36 then digit (s.points ((i - 16) / 4)) ((i - 16) % 4)
  else if i = 36 then s.loopMode
  else if i = 37 then s.susEnable
  else if i = 38 then s.susTune
  else if i = 39 then s.relTune
  else if 40 ≤ i ∧ i < 42 then digit s.clusterTop (i - 40)
  else if i = 44 then s.options
  else if i = 45 then s.key
  else s.pfill i

def SampleImg.dirBytes (s : SampleImg) : Bytes := (List.range 32).map s.dirAt
def SampleImg.parBytes (s : SampleImg) : Bytes := (List.range 48).map s.parAt

structure SampleImg.Ok (s : SampleImg) (dn pn : Smpl.Names.Name) : Prop where
  dlen : s.dname.length = 16
  plen : s.pname.length = 16
  dname : padded s.dname = some dn
  pname : padded s.pname = some pn
  fat : s.fatEntry < 65536
  points : ∀ k, k < 5 → s.points k < 4294967296
  top : s.clusterTop < 65536
  freq : (freqOf (s.options % 16)).isSome = true

def SampleImg.toRec (s : SampleImg) (i : Nat) (dn pn : Smpl.Names.Name) : SampleRec :=
  ⟨i, dn, pn, s.fatEntry, [s.points 0, s.points 1, s.points 2, s.points 3, s.points 4], s.loopMode, s.susEnable,
    s.susTune, s.relTune, s.clusterTop, s.options, s.key⟩

/-- **C02 (written sample record).** An image that holds, at the directory slot and the parameter slot
of sample `i`, records written field by field parses to exactly the written values — whatever the
unspecified bytes and the rest of the image hold. -/
theorem C02_sample_record_roundtrip (s : SampleImg) (dn pn : Smpl.Names.Name) (hok : s.Ok dn pn) (i : Nat)
    (hi : i < maxNum .samp) (A B C : Bytes)
    (hA : A.length = dirOff .samp + 32 * i)
    (hB : (A ++ (s.dirBytes ++ B)).length = parOff .samp + 48 * i) :
    sampleRec (Img.ofBytes (A ++ (s.dirBytes ++ (B ++ (s.parBytes ++ C))))) i = some (s.toRec i dn pn) := by
  obtain ⟨fq, hfq⟩ := Option.isSome_iff_exists.mp hok.freq
  have hd : (Img.ofBytes (A ++ (s.dirBytes ++ (B ++ (s.parBytes ++ C))))).rd (dirOff .samp + 32 * i) 32
      = some s.dirBytes := by
    rw [ofBytes_rd, ← hA, show 32 = s.dirBytes.length by simp [SampleImg.dirBytes]]; exact rd_piece A s.dirBytes _
  have hp : (Img.ofBytes (A ++ (s.dirBytes ++ (B ++ (s.parBytes ++ C))))).rd (parOff .samp + 48 * i) 48
      = some s.parBytes := by
    rw [ofBytes_rd, ← hB, ← List.append_assoc s.dirBytes, ← List.append_assoc A,
      show 48 = s.parBytes.length by simp [SampleImg.parBytes]]
    exact rd_piece _ s.parBytes C
  -- their fields: the bytes are found by evaluating `dirAt`, `parAt` at the fixed offsets
  have w2 : ∀ v, v < 65536 → leVal [digit v 0, digit v 1] = v := fun v h => (leVal_eq _).trans (le2 h)
  have w4 : ∀ k, k < 5 → leVal [digit (s.points k) 0, digit (s.points k) 1, digit (s.points k) 2, digit (s.points k) 3]
      = s.points k := fun k hk => (leVal_eq _).trans (le4 (hok.points k hk))
  have p_pts : (List.range 5).map (fun k => leVal ((s.parBytes.drop (16 + 4 * k)).take 4))
      = [s.points 0, s.points 1, s.points 2, s.points 3, s.points 4] := by
    rw [← w4 0 (by decide), ← w4 1 (by decide), ← w4 2 (by decide), ← w4 3 (by decide), ← w4 4 (by decide)]; rfl
  have d_name : s.dirBytes.take 16 = s.dname := map_getD_range hok.dlen
  have p_name : s.parBytes.take 16 = s.pname := map_getD_range hok.plen
  have d_fat : leVal ((s.dirBytes.drop 28).take 2) = s.fatEntry := w2 _ hok.fat
  have p_top : leVal ((s.parBytes.drop 40).take 2) = s.clusterTop := w2 _ hok.top
  simp only [sampleRec, dirRec, Nat.not_le.mpr hi, if_false, hd, hp, d_name, hok.dname, d_fat, p_name, hok.pname,
    p_top, p_pts, bind, Option.bind, pure]
  rw [show s.parBytes.getD 44 0 = s.options from rfl, hfq]
  rfl

/-- **C02 (written sample, from the raw image).** Let the image hold the written records of `s` at the
slots of sample `i`, and let `C02_clusters_from_image` apply to a chain `c` from the sample's FAT
entry. Then the written record is read back, with the clusters of `c` after the leading-cluster
offset; if those are all in the file and hold `enc ws` plus padding, the sample exports exactly the
window its loop mode addresses. -/
theorem C02_written_sample (s : SampleImg) (dn pn : Smpl.Names.Name) (hok : s.Ok dn pn) (i : Nat)
    (hi : i < maxNum .samp) (A B C : Bytes)
    (hA : A.length = dirOff .samp + 32 * i)
    (hB : (A ++ (s.dirBytes ++ B)).length = parOff .samp + 48 * i)
    (fat : Fat) (hfat : parseFat (Img.ofBytes (A ++ (s.dirBytes ++ (B ++ (s.parBytes ++ C))))) = .ok fat)
    (c : List Nat) (hc : Smpl.Props.C07.RawChain (rawFat (A ++ (s.dirBytes ++ (B ++ (s.parBytes ++ C))))).toArray c)
    (hhead : c.headD 0 = s.fatEntry) (hc0 : 2 ≤ s.fatEntry) (hc0hi : s.fatEntry < FAT_N - 9)
    (ws : List Nat) (pad : Bytes) (start n : Nat) (rev : Bool)
    (hfull : ∀ cl ∈ c.drop s.clusterTop, (clusterData (Img.ofBytes (A ++ (s.dirBytes ++ (B ++ (s.parBytes ++ C))))) cl).length = CLUSTER)
    (hcontent : chainContent (Img.ofBytes (A ++ (s.dirBytes ++ (B ++ (s.parBytes ++ C))))) (c.drop s.clusterTop) = enc ws ++ pad)
    (hwin : sampleWindow s.loopMode [s.points 0, s.points 1, s.points 2, s.points 3, s.points 4] = ((start : Int), (n : Int), rev))
    (hn : 0 < n) (hfit : start + n ≤ ws.length) :
    sampleRec (Img.ofBytes (A ++ (s.dirBytes ++ (B ++ (s.parBytes ++ C))))) i = some (s.toRec i dn pn) ∧
    fileClusters fat (s.toRec i dn pn).fatEntry (s.toRec i dn pn).clusterTop = .ok (c.drop s.clusterTop) ∧
    sampleData (Img.ofBytes (A ++ (s.dirBytes ++ (B ++ (s.parBytes ++ C))))) ⟨s.toRec i dn pn, c.drop s.clusterTop⟩
      = some (enc (wordWindow ws start n rev)) := by
  refine ⟨C02_sample_record_roundtrip s dn pn hok i hi A B C hA hB, ?_, ?_⟩
  · have := C02_clusters_from_image _ fat hfat c hc (by rw [hhead]; exact hc0) (by rw [hhead]; exact hc0hi)
      s.clusterTop
    rw [hhead] at this
    exact this
  · exact C02_sample _ ⟨s.toRec i dn pn, c.drop s.clusterTop⟩ ws pad hfull hcontent start n rev hwin hn hfit

end Smpl.Props.C02
