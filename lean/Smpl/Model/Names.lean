/-
Layer L4: name sanitising, sibling de-duplication, stereo pairing, path tokenising and lookup
(properties C05, C06, C10).

Python sources mirrored:
  smpl_extract/structural.py  Image.make_safe_name / make_export_name / _add_count_to_name /
                              sanitize_names_general / combine_stereo_routine, Traversable.parse_path
  smpl_extract/akai/image.py  AkaiImageParser._sanitize_string
  smpl_extract/base.py        Element.export_path
All names the three front ends produce are ASCII (AKAI character set, Roland "ascii" strings, cue
sheets opened as ASCII), so `\w`, `\s`, `str.strip`, `str.upper` are the ASCII tables below
(regenerated and compared by the translator: Gen.Names).
-/
import Smpl.Model.Basic
namespace Smpl.Names

abbrev Name := List Char

/-- regex `\w` on ASCII: letters, digits, underscore. -/
def isWord (c : Char) : Bool :=
  let n := c.toNat
  (48 ≤ n && n ≤ 57) || (65 ≤ n && n ≤ 90) || (97 ≤ n && n ≤ 122) || n == 95

/-- regex `\s` / `str.isspace` on ASCII. -/
def isWs (c : Char) : Bool :=
  let n := c.toNat
  (9 ≤ n && n ≤ 13) || (28 ≤ n && n ≤ 32)

def stripL (s : Name) : Name := s.dropWhile isWs
def strip (s : Name) : Name := (stripL (stripL s).reverse).reverse

def upperC (c : Char) : Char := if 97 ≤ c.toNat && c.toNat ≤ 122 then Char.ofNat (c.toNat - 32) else c

/-- characters kept by `_INVALID_CHARS_REPLACE`'s first alternative: `[\w\-=\:.@#&+ ]`. -/
def safeKeep (c : Char) : Bool :=
  isWord c || c == '-' || c == '=' || c == ':' || c == '.' || c == '@' || c == '#' || c == '&' ||
  c == '+' || c == ' '

/-- characters kept by `_INVALID_FILE_NAME`: `[\w\-\.# ]`. -/
def exportKeep (c : Char) : Bool := isWord c || c == '-' || c == '.' || c == '#' || c == ' '

def isQuote (c : Char) : Bool := c == '\'' || c == '"' || c == '`'

theorem dropWhile_length_le (p : Char → Bool) (l : List Char) : (l.dropWhile p).length ≤ l.length :=
  (List.dropWhile_sublist p).length_le

/-- `re.sub(pattern+, " ", s)` for a character-class pattern: every maximal run of characters
outside `keep` becomes one blank. -/
def subRuns (keep : Char → Bool) : Name → Name
  | [] => []
  | c :: cs => if keep c then c :: subRuns keep cs else ' ' :: subRuns keep (cs.dropWhile (fun x => !keep x))
termination_by s => s.length
decreasing_by
  all_goals simp_wf
  all_goals first
    | omega
    | (have := dropWhile_length_le (fun x => !keep x) cs; omega)

/-- `_INVALID_CHARS_REPLACE.sub(" ", s)`: runs outside `safeKeep` become one blank, and a run of
colons that is *not preceded by a word character* becomes one blank (`(?<!\w)\:+`).
`prev` is the previous character of the original string. -/
def safeReplace : Option Char → Name → Name
  | _, [] => []
  | prev, c :: cs =>
    if !safeKeep c then ' ' :: safeReplace none (cs.dropWhile (fun x => !safeKeep x))
    else if c == ':' && !(prev.map isWord).getD false then
      ' ' :: safeReplace (some ':') (cs.dropWhile (· == ':'))
    else c :: safeReplace (some c) cs
termination_by _ s => s.length
decreasing_by
  all_goals simp_wf
  all_goals first
    | omega
    | (have := dropWhile_length_le (fun x => !safeKeep x) cs; omega)
    | (have := dropWhile_length_le (· == ':') cs; omega)

/-- `make_safe_name`: drop quotes, replace, strip. -/
def makeSafeName (name : Name) : Name :=
  strip (safeReplace none (name.filter (!isQuote ·)))

/-- the trailing-dot step of `make_export_name` (`export_name[:-1].rstrip() or export_name`, which
computes the group of the pattern `(.+?)\s*\.?\s*$`) on a stripped string: drop trailing blanks, then
one optional dot, then blanks again — but keep at least one character. -/
def dropDot : Name → Name
  | '.' :: rest => rest.dropWhile isWs
  | r => r

def safeEnding (s : Name) : Name :=
  let r1 := dropDot (s.reverse.dropWhile isWs)
  if r1.isEmpty then
    -- `(.+?)` needs one character: the shortest admissible group is the first character
    s.take 1
  else r1.reverse

def expBase (name : Name) : Name := strip (subRuns exportKeep name)
def expEnding (e0 : Name) : Name := if e0.isEmpty then e0 else safeEnding e0
def expNonEmpty (e1 : Name) : Name := if e1.isEmpty then ['0'] else e1
def expWordHead : Name → Name
  | [] => []
  | c :: cs => if isWord c then c :: cs else '0' :: c :: cs
def expDirTail (isFile : Bool) (e3 : Name) : Name :=
  if isFile then e3
  else
    match e3.getLast? with
    | some c => if c == '.' || c == '-' then e3 ++ ['0'] else e3
    | none => e3

/-- `make_export_name(name, is_file)` (the replacement is applied to the raw name):
replace, strip, drop a trailing dot, empty ↦ "0", non-word first character ↦ prefix "0",
directories ending in `.` or `-` get a "0" appended. -/
def makeExportName (name : Name) (isFile : Bool) : Name :=
  expDirTail isFile (expWordHead (expNonEmpty (expEnding (expBase name))))

def isSep (c : Char) : Bool := isWs c || c == '-'

/-- `_STEREO_FILENAME` = `(.*?)([\s-]+)(L|R)\s*$`: (stem, separator run, side).
`.` does not match a line feed: a stem that contains one cannot be matched (names of real images never do). -/
def stereoMatch (s : Name) : Option (Name × Name × Char) :=
  let r := s.reverse.dropWhile isWs
  match r with
  | side :: rest =>
    if side == 'L' || side == 'R' then
      let sep := rest.takeWhile isSep
      let stem := (rest.dropWhile isSep).reverse
      if sep.isEmpty || stem.any (· == '\n') then none
      else some (stem, sep.reverse, side)
    else none
  | [] => none

def natChars (n : Nat) : Name := (toString n).toList

/-- `_add_count_to_name`. -/
def addCount (name : Name) (n : Nat) : Name :=
  let cnt := '(' :: (natChars n ++ [')'])
  match stereoMatch name with
  | some (stem, _, side) => stem ++ [' '] ++ cnt ++ [' ', side]
  | none => name ++ [' '] ++ cnt

/-! ## sibling de-duplication (`sanitize_names_general`, after the `fix:` of D3) -/

/-- group elements by candidate name, in first-occurrence order (a Python dict of lists).
Elements are identified by their index. -/
def groupBy (cands : List Name) : List (Name × List Nat) :=
  let rec go (i : Nat) (acc : List (Name × List Nat)) : List Name → List (Name × List Nat)
    | [] => acc
    | c :: cs =>
      let acc' := if acc.any (·.1 == c)
        then acc.map fun (k, v) => if k == c then (k, v ++ [i]) else (k, v)
        else acc ++ [(c, [i])]
      go (i + 1) acc' cs
  go 0 [] cands

/-- the `while next_name in used` loop: first count `i' ≥ i` (stepping by one) whose name is free;
gives up after `fuel` steps (`CouldNotDetermineName`). -/
def nextFree (name : Name) (used : List Name) : Nat → Nat → Option (Nat × Name)
  | 0, _ => none
  | fuel + 1, i =>
    let cand := addCount name i
    if used.contains cand then nextFree name used fuel (i + 1) else some (i, cand)

/-- assign names to the members of one group (the first keeps the candidate name). -/
def assignGroup (name : Name) : List Nat → Nat → List Name → List (Nat × Name) → Except Err (List Name × List (Nat × Name))
  | [], _, used, out => .ok (used, out)
  | e :: es, i, used, out =>
    let i1 := i + 1
    if i1 > 1 then
      match nextFree name used (used.length + 2) i1 with
      | none => .error .name
      | some (i2, nm) => assignGroup name es i2 (nm :: used) (out ++ [(e, nm)])
    else assignGroup name es i1 used (out ++ [(e, name)])

/-- `sanitize_names_general` on the candidate names of the siblings; result: assigned name per
element index, in element order. -/
def dedupe (cands : List Name) : Except Err (List Name) :=
  let groups := groupBy cands
  let rec loop : List (Name × List Nat) → List Name → List (Nat × Name) → Except Err (List (Nat × Name))
    | [], _, out => .ok out
    | (name, members) :: gs, used, out =>
      match members with
      | [e] => loop gs used (out ++ [(e, name)])
      | _ =>
        match assignGroup name members 0 used [] with
        | .error err => .error err
        | .ok (used', o) => loop gs used' (out ++ o)
  match loop groups (groups.map (·.1)) [] with
  | .error e => .error e
  | .ok out => .ok ((List.range cands.length).map fun i => ((out.find? (·.1 == i)).map (·.2)).getD [])

/-! ## stereo pairing (`combine_stereo_routine`, after the `fix:` of D4) -/

inductive Group where
  | mono (idx : Nat)
  | pair (left right : Nat) (name : Name)
deriving DecidableEq, Repr

/-- a stem that is already a sibling's name (or an earlier pair's) gets a `(n)` suffix. -/
def freeStem (stem : Name) (taken : List Name) : Nat → Nat → Name
  | 0, _ => stem
  | fuel + 1, i =>
    let cand := if i ≤ 1 then stem else stem ++ [' ', '('] ++ natChars i ++ [')']
    if taken.contains cand then freeStem stem taken fuel (i + 1) else cand

/-- `combine_stereo_routine` on the export names of the samples of one directory (in order). -/
def combine (names : List Name) : List Group :=
  let lookup (n : Name) : Option Nat :=
    -- `sample_dict[name]`: later duplicates overwrite earlier ones
    (List.range names.length).reverse.find? fun i => names[i]? == some n
  let rec go (i : Nat) (rest : List Name) (marked : List Name) (taken : List Name) (acc : List Group) :
      List Group :=
    match rest with
    | [] => acc
    | n :: ns =>
      if marked.contains n then go (i + 1) ns marked taken acc
      else
        match stereoMatch n with
        | some (stem, sep, side) =>
          let altSide := if side == 'L' then 'R' else 'L'
          let alt := stem ++ sep ++ [altSide]
          match lookup alt with
          | some j =>
            let nm := freeStem stem taken (taken.length + 2) 1
            let g := if altSide == 'R' then Group.pair i j nm else Group.pair j i nm
            go (i + 1) ns (n :: alt :: marked) (nm :: taken) (acc ++ [g])
          | none => go (i + 1) ns (n :: marked) taken (acc ++ [.mono i])
        | none => go (i + 1) ns (n :: marked) taken (acc ++ [.mono i])
  go 0 names [] names []

/-! ## paths -/

/-- `re.split(r"(\\{1,2}|\/)", s)` keeping the even positions: split at `/`, `\` or `\\`. -/
def splitPath (s : Name) : List Name :=
  let rec go (cur : Name) (acc : List Name) : Name → List Name
    | [] => (cur.reverse :: acc).reverse
    | '/' :: rest => go [] (cur.reverse :: acc) rest
    | '\\' :: '\\' :: rest => go [] (cur.reverse :: acc) rest
    | '\\' :: rest => go [] (cur.reverse :: acc) rest
    | c :: rest => go (c :: cur) acc rest
  go [] [] s

/-- the token list of `parse_path`: strip, split, drop one trailing empty token. -/
def tokenize (path : Name) : List Name :=
  let ts := splitPath (strip path)
  match ts.getLast? with
  | some [] => ts.dropLast
  | _ => ts

/-- `Traversable._sanitize_string` (plain) and `AkaiImageParser._sanitize_string`. -/
def sanitizeToken (akai : Bool) (t : Name) : Name :=
  if akai then
    let u := strip (t.map upperC)
    match u.getLast? with
    | some ':' => u.dropLast
    | _ => u
  else strip t

/-- a directory tree as `ls` sees it: safe name, traversable?, children. -/
inductive Node where
  | node (name : Name) (dir : Bool) (children : List Node)

def Node.name : Node → Name | .node n _ _ => n
def Node.isDir : Node → Bool | .node _ d _ => d
def Node.children : Node → List Node | .node _ _ c => c

/-- `parse_path`: walk the tokens; the first child whose sanitised safe name equals the sanitised
token; a leaf cannot be traversed. Returns the node or the index of the failing token. -/
def lookup (akai : Bool) : Node → List Name → Nat → Except Nat Node
  | n, [], _ => .ok n
  | n, t :: ts, i =>
    if n.isDir then
      match n.children.find? (fun c => sanitizeToken akai c.name == sanitizeToken akai t) with
      | some c => lookup akai c ts (i + 1)
      | none => .error i
    else .error i

/-- does child `k` carry the (normalised) name of token `t`? -/
def childMatches (akai : Bool) (kids : List Node) (t : Name) (k : Nat) : Bool :=
  match kids[k]? with
  | some c => sanitizeToken akai c.name == sanitizeToken akai t
  | none => false

/-- `next(x for x in children if sanitize(x.safe_name) == sanitize(token))`: first matching child. -/
def findChild (akai : Bool) (kids : List Node) (t : Name) : Option Nat :=
  (List.range kids.length).find? (childMatches akai kids t)

/-- index path of the node found, or the `ErrorInvalidPath` message of `parse_path`. -/
def lookupIdx (akai : Bool) : Node → List Name → List Name → Nat → List Nat → Except Name (List Nat)
  | _, [], _, _, acc => .ok acc.reverse
  | n, t :: ts, all, i, acc =>
    let fail : Except Name (List Nat) :=
      let sofar : Name := if i == 0 then "image".toList
        else (List.intersperse ['/'] (all.take i)).flatten ++ ['/']
      .error ("The entity \"".toList ++ t ++ "\" was not found in \"".toList ++ sofar ++ "\".".toList)
    if n.isDir then
      match findChild akai n.children t with
      | some k =>
        match n.children[k]? with
        | some c => lookupIdx akai c ts all (i + 1) (k :: acc)
        | none => fail
      | none => fail
    else fail

/-- `Element.export_path` + `ExportManager.make_output_path`: export names from below the image down. -/
def exportPath (components : List Name) : Name := (List.intersperse ['/'] components).flatten ++ ".wav".toList

end Smpl.Names
