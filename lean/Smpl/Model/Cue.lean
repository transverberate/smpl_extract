/-
Layer L5 (part 1): cue sheet parsing (property C17; used by C03, C09).

Python source mirrored: smpl_extract/cuesheet.py
  get_nonempty_entry, CueSheetTrackAdapter.parse, CueSheetFileAdapter.parse, parse_cue_sheet
  and the four `re.match(…, flags=re.I)` line patterns
    TRACK  \s*TRACK\s+(\d+)\s+([A-z\d\/]+)
    TITLE  \s*TITLE\s+\"(.*?)\"
    INDEX  \s*INDEX\s+(\d+)\s+(\d+):(\d+):(\d+)
    FILE   \s*FILE\s+\"(.*?)\"\s+BINARY
Cue sheets are opened with encoding="ascii", so characters are ASCII; `\s`, `\d` and `str.strip`
are the ASCII tables below (regenerated and compared by the translator: Gen.Cue).
-/
import Smpl.Model.Basic
namespace Smpl.Cue

/-- Python `str.isspace` / regex `\s` on ASCII: TAB LF VT FF CR, FS GS RS US, SPACE. -/
def isWs (c : Char) : Bool :=
  let n := c.toNat
  (9 ≤ n && n ≤ 13) || (28 ≤ n && n ≤ 32)

def isDigit (c : Char) : Bool := 48 ≤ c.toNat && c.toNat ≤ 57

/-- ASCII lower-casing (`re.I` on ASCII text). -/
def lowerC (c : Char) : Char := if 65 ≤ c.toNat && c.toNat ≤ 90 then Char.ofNat (c.toNat + 32) else c

/-- the class `[A-z\d\/]` (under `re.I`): every code from 'A' to 'z', digits, '/'. -/
def isModeChar (c : Char) : Bool :=
  (65 ≤ c.toNat && c.toNat ≤ 122) || isDigit c || c == '/'

def stripL (s : List Char) : List Char := s.dropWhile isWs
/-- `str.strip()`. -/
def strip (s : List Char) : List Char := (stripL (stripL s).reverse).reverse

/-- case-insensitive keyword at the start of `s`; returns the rest. -/
def kw : List Char → List Char → Option (List Char)
  | [], s => some s
  | _ :: _, [] => none
  | k :: ks, c :: cs => if lowerC c == lowerC k then kw ks cs else none

/-- `\s+`: at least one blank; returns the rest. -/
def ws1 (s : List Char) : Option (List Char) :=
  match s with
  | c :: _ => if isWs c then some (s.dropWhile isWs) else none
  | [] => none

def digitsVal (ds : List Char) : Nat := ds.foldl (fun acc d => acc * 10 + (d.toNat - 48)) 0

/-- `(\d+)`: greedy run of digits, at least one; returns (`int(group)`, rest). -/
def digits1 (s : List Char) : Option (Nat × List Char) :=
  let ds := s.takeWhile isDigit
  if ds.isEmpty then none else some (digitsVal ds, s.dropWhile isDigit)

inductive Kind where
  | blank
  | file (name : List Char) (text : List Char)
  | track (n : Nat) (mode : List Char)
  | index (i m s f : Nat)
  | title (t : List Char)
  | other (text : List Char)
deriving DecidableEq, Repr

def matchTrack (s : List Char) : Option Kind := do
  let r ← kw "TRACK".toList (stripL s)
  let r ← ws1 r
  let (n, r) ← digits1 r
  let r ← ws1 r
  let mode := r.takeWhile isModeChar
  if mode.isEmpty then none else some (.track n mode)

def matchIndex (s : List Char) : Option Kind := do
  let r ← kw "INDEX".toList (stripL s)
  let r ← ws1 r
  let (i, r) ← digits1 r
  let r ← ws1 r
  let (m, r) ← digits1 r
  let r ← kw [':'] r
  let (sec, r) ← digits1 r
  let r ← kw [':'] r
  let (f, _) ← digits1 r
  some (.index i m sec f)

/-- `"(.*?)"`: text up to the first later quote. -/
def matchTitle (s : List Char) : Option Kind := do
  let r ← kw "TITLE".toList (stripL s)
  let r ← ws1 r
  let r ← kw ['"'] r
  if r.contains '"' then some (.title (r.takeWhile (· != '"'))) else none

/-- `"(.*?)"\s+BINARY`: the shortest name such that the closing quote is followed by blanks and
`BINARY` (the regex engine backtracks over later quotes). `acc` holds the name so far, reversed. -/
def fileName : List Char → List Char → Option (List Char)
  | _, [] => none
  | acc, c :: cs =>
    if c == '"' then
      match (ws1 cs).bind (kw "BINARY".toList) with
      | some _ => some acc.reverse
      | none => fileName (c :: acc) cs
    else fileName (c :: acc) cs

def matchFile (s : List Char) : Option Kind := do
  let r ← kw "FILE".toList (stripL s)
  let r ← ws1 r
  let r ← kw ['"'] r
  let n ← fileName [] r
  some (.file n s)

/-- one raw line → its kind (the four keywords are pairwise incompatible, so the order of the
attempts does not matter). -/
def classify (raw : List Char) : Kind :=
  let t := strip raw
  if t.isEmpty then .blank
  else
    match matchFile t with
    | some k => k
    | none =>
      match matchTrack t with
      | some k => k
      | none =>
        match matchIndex t with
        | some k => k
        | none =>
          match matchTitle t with
          | some k => k
          | none => .other t

structure Index where
  number : Nat
  m : Nat
  s : Nat
  f : Nat
deriving DecidableEq, Repr

structure Track where
  number   : Nat
  mode     : List Char
  title    : Option (List Char)
  indices  : List Index
  unparsed : List (List Char)
deriving DecidableEq, Repr

structure CueFile where
  binName : List Char
  tracks  : List Track
deriving DecidableEq, Repr

/-- the body of `CueSheetTrackAdapter.parse` after the TRACK line: consume until the next TRACK
line (left in place) or the end. -/
def trackBody (t : Track) : List Kind → Track × List Kind
  | [] => (t, [])
  | .blank :: rest => trackBody t rest
  | .track n m :: rest => (t, .track n m :: rest)
  | .index i m s f :: rest => trackBody { t with indices := t.indices ++ [⟨i, m, s, f⟩] } rest
  | .title x :: rest => trackBody { t with title := some x } rest
  | .file _ x :: rest => trackBody { t with unparsed := t.unparsed ++ [x] } rest
  | .other x :: rest => trackBody { t with unparsed := t.unparsed ++ [x] } rest

theorem trackBody_length (t : Track) (ks : List Kind) : (trackBody t ks).2.length ≤ ks.length := by
  induction ks generalizing t with
  | nil => simp [trackBody]
  | cons k ks ih =>
    cases k with
    | track => simp [trackBody]
    | _ => exact Nat.le_succ_of_le (ih _)

/-- `CueSheetFileAdapter.parse` after the FILE line: every following non-blank line must start a
track (`CueSheetTrackAdapter.parse` raises `BadCueSheet` otherwise). -/
def fileTracks : Nat → List Kind → Except Err (List Track)
  | 0, _ => .ok []
  | _ + 1, [] => .ok []
  | fuel + 1, .blank :: rest => fileTracks fuel rest
  | fuel + 1, .track n m :: rest =>
    let (t, rest') := trackBody ⟨n, m, none, [], []⟩ rest
    match fileTracks fuel rest' with
    | .ok ts => .ok (t :: ts)
    | .error e => .error e
  | _ + 1, _ :: _ => .error .badCue

/-- `parse_cue_sheet`: skip to the first FILE line; its parse consumes everything after it; the
first FILE entry is the result. -/
def parseKinds : List Kind → Except Err CueFile
  | [] => .error .badCue                                  -- "No FILE entry"
  | .file name _ :: rest =>
    match fileTracks (rest.length + 1) rest with
    | .ok ts => .ok ⟨name, ts⟩
    | .error e => .error e
  | _ :: rest => parseKinds rest

def parse (lines : List (List Char)) : Except Err CueFile := parseKinds (lines.map classify)

/-- what C17 calls the meaning of a cue sheet: everything but the `unparsed` lists. -/
def Track.meaning (t : Track) : Nat × List Char × Option (List Char) × List Index :=
  (t.number, t.mode, t.title, t.indices)

def CueFile.meaning (c : CueFile) := (c.binName, c.tracks.map Track.meaning)

end Smpl.Cue
