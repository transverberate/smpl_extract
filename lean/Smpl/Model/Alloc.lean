/-
Layer L2: link tables, chain walk, AKAI SAT decoding, Roland FAT decoding (property C07).

Python sources mirrored:
  smpl_extract/util/fat.py        SectorLink, add_to_sector_links, FileAllocationTable.get_path
  smpl_extract/akai/sat.py        SegmentAllocationTableAdapter._decode
  smpl_extract/roland/s7xx/fat.py FatAreaAdapter._decode (link part)
-/
import Smpl.Model.Basic
namespace Smpl.Alloc

/-- `SectorLink(next, end)`; the default `SectorLink()` is `(0, True)`. -/
structure Link where
  next  : Nat
  isEnd : Bool
deriving DecidableEq, Repr, Inhabited

def Link.dflt : Link := ⟨0, true⟩

/-! ## `get_path` (with the loop counter incremented, i.e. after the `fix:` of D6) -/

/-- chain walk bounded by `fuel` iterations (= `self.size`): `loop_cnt` counts up to `size`. -/
def walk (links : List Link) : Nat → Nat → Except Err (List Nat)
  | 0, _ => .error .invalidFat                       -- `loop_cnt >= self.size`
  | fuel + 1, cur =>
    match links[cur]? with
    | none => .error .invalidSector                   -- `current_sector >= len(self.sector_links)`
    | some l =>
      if l.isEnd then .ok [cur]
      else match walk links fuel l.next with
        | .ok p => .ok (cur :: p)
        | .error e => .error e

/-- `FileAllocationTable.get_path(starting_sector)`. -/
def getPath (links : List Link) (size : Nat) (start : Nat) : Except Err (List Nat) :=
  walk links size start

/-! ## `add_to_sector_links` -/

/-- install `l[0] → l[1] → … → l[k]` (last one marked end). `IndexError → InvalidFatDefinition`. -/
def addLinks : List Nat → List Link → Except Err (List Link)
  | [], links => .ok links                               -- (callers never pass an empty list)
  | [a], links => if a < links.length then .ok (links.set a ⟨0, true⟩) else .error .invalidFat
  | a :: b :: rest, links =>
    if a < links.length then addLinks (b :: rest) (links.set a ⟨b, false⟩) else .error .invalidFat

/-! ## AKAI SAT decoding -/

def SAT_FREE : Nat := 0x0000
def SAT_EOF : Nat := 0xC000
def SAT_RES1 : Nat := 0x4000
def SAT_RES2 : Nat := 0x8000

def isDirWord (v : Nat) : Bool := v == SAT_RES1 || v == SAT_RES2

/-- decoder state. `dirty` (the visited flags) is an `Array` so that the driver can decode real
11386-entry tables quickly; all reasoning goes through `dirty.toList`. -/
structure AkaiSt where
  links   : List Link
  dirty   : Array Bool
  prevDir : Bool
deriving Repr

def nondirty (d : List Bool) : Nat := d.count false

/-- potential used for termination of the inner walk. -/
def phi (d : List Bool) (sub : Nat) : Nat :=
  2 * nondirty d - (if d[sub]? = some false then 1 else 0)

theorem nondirty_set (d : List Bool) (i : Nat) :
    nondirty (d.set i true) + (if d[i]? = some false then 1 else 0) = nondirty d := by
  unfold nondirty
  induction d generalizing i with
  | nil => rfl
  | cons b d ih =>
    cases i with
    | zero => cases b <;> simp
    | succ i =>
      simp only [List.set_cons_succ, List.getElem?_cons_succ, List.count_cons]
      rw [Nat.add_right_comm, ih i]

theorem nondirty_pos {d : List Bool} {v : Nat} (h : d[v]? = some false) : 0 < nondirty d :=
  List.count_pos_iff.mpr (List.mem_of_getElem? h)

theorem nondirty_set_le (d : List Bool) (i : Nat) : nondirty (d.set i true) ≤ nondirty d :=
  Nat.le.intro (nondirty_set d i)

theorem akai_measure (d : List Bool) (size sub v : Nat) (hsub : sub < size)
    (dir : Bool)
    (hlink : dir = false → d[v]? = some false)
    (hnext : (if dir = false then v else sub + 1) < size) :
    Prod.Lex (· < ·) (· < ·)
      (phi (d.set sub true) (if dir = false then v else sub + 1),
        size - (if dir = false then v else sub + 1))
      (phi d sub, size - sub) := by
  unfold phi
  have h1 := nondirty_set d sub
  by_cases hs : d[sub]? = some false
  · -- the current sector was clean: the count of clean sectors drops
    apply Prod.Lex.left
    simp only [hs, if_true] at h1 ⊢
    refine Nat.lt_of_le_of_lt (Nat.sub_le ..) (Nat.lt_sub_of_add_lt ?_)
    rw [← h1, Nat.mul_succ]
    exact Nat.lt_succ_self _
  · simp only [hs, if_false, Nat.add_zero, Nat.sub_zero] at h1 ⊢
    cases dir with
    | false =>
      -- a link is followed only to a clean sector: it is another one than `sub`, and stays clean
      have hv := hlink rfl
      have hv' : (d.set sub true)[v]? = some false := by
        rw [List.getElem?_set_ne (fun e : sub = v => hs (e ▸ hv))]; exact hv
      apply Prod.Lex.left
      simp only [if_true, hv']
      rw [h1]
      exact Nat.sub_lt (Nat.mul_pos (by decide) (nondirty_pos hv)) Nat.one_pos
    | true =>
      -- inside a directory run: the next sector is clean and the count drops, or the index grows
      simp only [Bool.true_eq_false, if_false] at hnext ⊢
      by_cases hq : (d.set sub true)[sub + 1]? = some false
      · apply Prod.Lex.left
        simp only [hq, if_true]
        rw [← h1]
        exact Nat.sub_lt (Nat.mul_pos (by decide) (nondirty_pos hq)) Nat.one_pos
      · simp only [hq, if_false, Nat.sub_zero]
        rw [h1]
        exact Prod.Lex.right _ (Nat.sub_succ_lt_self _ _ hsub)

/-- The inner `while` of `_decode` for one starting sector. `lst` is kept in reverse.
Returns `none` only for `InvalidFatDefinition` out of `add_to_sector_links` (cannot happen:
every walked index is `< size`; kept so that the model does not silently drop the error path). -/
def akaiWalk (words : Array Nat) (st : AkaiSt) (lst : List Nat) (sub : Nat) :
    Except Err AkaiSt :=
  let size := words.size
  match hw : words[sub]? with
  | none => .ok st                                                  -- `subpath_index >= size`
  | some v =>
    let curDir := isDirWord v
    if !curDir && st.prevDir && !lst.isEmpty then
      match addLinks lst.reverse st.links with
      | .ok ls => .ok { st with links := ls, prevDir := false }
      | .error e => .error e
    else if v == SAT_FREE || (v < size && st.dirty[v]?.getD true) then
      -- (after the `fix:` of D1) a chain running into an already decoded chain keeps what was walked
      let dirty' := st.dirty.setIfInBounds sub true
      if v != SAT_FREE && !curDir then
        match addLinks (sub :: lst).reverse st.links with
        | .ok ls => .ok { links := ls.set sub ⟨v, false⟩, dirty := dirty', prevDir := false }
        | .error e => .error e
      else .ok { st with dirty := dirty', prevDir := false }
    else if v == SAT_EOF then
      match addLinks (sub :: lst).reverse st.links with
      | .ok ls => .ok { links := ls, dirty := st.dirty.setIfInBounds sub true, prevDir := curDir }
      | .error e => .error e
    else
      let st' : AkaiSt := { st with dirty := st.dirty.setIfInBounds sub true, prevDir := curDir }
      let next := if !curDir then v else sub + 1
      if next < size then akaiWalk words st' (sub :: lst) next
      else if curDir then
        -- (after the `fix:` of D18) a directory run that ends with the table's last sector is installed
        match addLinks (sub :: lst).reverse st.links with
        | .ok ls => .ok { st' with links := ls }
        | .error e => .error e
      else .ok st'                                                  -- next iteration breaks at once
termination_by (phi st.dirty.toList sub, words.size - sub)
decreasing_by
  simp_wf
  rename_i h3 h2 h1 hn
  have hsub : sub < words.size := by
    rcases Nat.lt_or_ge sub words.size with h' | h'
    · exact h'
    · rw [Array.getElem?_eq_none h'] at hw; cases hw
  apply akai_measure st.dirty.toList words.size sub v hsub (isDirWord v)
  · intro hdir
    have hvlt : v < words.size := by
      simp only [next, curDir, hdir] at hn; simpa using hn
    simp only [size, Bool.or_eq_true, Bool.and_eq_true, decide_eq_true_eq, not_or, not_and] at h2
    have := h2.2 hvlt
    have hconv : st.dirty.toList[v]? = st.dirty[v]? := by simp
    rw [hconv]
    cases hd : st.dirty[v]? with
    | none => simp [hd] at this
    | some b => cases b with
      | false => rfl
      | true => simp [hd] at this
  · simpa [next, curDir, size] using hn

/-- `SegmentAllocationTableAdapter._decode`: the outer `for i in range(size)`. -/
def akaiDecodeSt (words : List Nat) : Except Err AkaiSt :=
  let n := words.length
  let wa := words.toArray
  let st0 : AkaiSt :=
    { links := List.replicate n Link.dflt, dirty := Array.replicate n false, prevDir := true }
  (List.range n).foldlM
    (fun st i => if st.dirty[i]?.getD true then pure st else akaiWalk wa st [] i) st0

def akaiDecode (words : List Nat) : Except Err (List Link) :=
  (akaiDecodeSt words).map (·.links)

/-! ## Roland FAT decoding -/

def FAT_FREE : Nat := 0x0000
def FAT_RESERVED : Nat := 0x0001
def FAT_ERROR : Nat := 0xfff7
def FAT_END : Nat := 0xfff8

structure RolSt where
  links : List Link
  dirty : Array Bool
deriving Repr

/-- inner `while True` of `FatAreaAdapter._decode`, with the loop guard of the `fix:` of D7:
a walk that appends more than `n` entries is a cycle and raises `ConstructError`.
`fuel` = number of appends still allowed (starts at `n + 1`). -/
def rolandWalk (words : Array Nat) : Nat → RolSt → List Nat → Nat → Except Err RolSt
  | fuel, st, lst, sub =>
    match words[sub]? with
    | none => .ok st                                              -- `subpath_index >= FAT_NUM_ENTRIES`
    | some v =>
      let st1 : RolSt := { st with dirty := st.dirty.setIfInBounds sub true }
      if v == FAT_ERROR then .error .construct
      else if v == FAT_RESERVED || v == FAT_FREE then
        if lst.isEmpty then .ok st1 else .error .construct
      else
        match fuel with
        | 0 => .error .construct                                  -- loop guard
        | fuel' + 1 =>
          if v ≥ FAT_END then
            match addLinks (sub :: lst).reverse st1.links with
            | .ok ls => .ok { st1 with links := ls }
            | .error e => .error e
          else rolandWalk words fuel' st1 (sub :: lst) v

/-- the link part of `FatAreaAdapter._decode` for a table of `n = words.length` entries. -/
def rolandDecode (words : List Nat) : Except Err (List Link) :=
  let n := words.length
  let wa := words.toArray
  let st0 : RolSt :=
    { links := List.replicate n Link.dflt,
      dirty := (Array.replicate n false).setIfInBounds 0 true |>.setIfInBounds 1 true }
  ((List.range (n - 9)).drop 2).foldlM
    (fun st i => if st.dirty[i]?.getD true then pure st else rolandWalk wa n st [] i) st0
  |>.map (·.links)

end Smpl.Alloc
