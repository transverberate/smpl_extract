-- Everything `lake build` checks: the shared lemma files and the property files (the model,
-- the specifications and the generated tables come in through their imports).
import Smpl.Lemmas.AkaiPartition
import Smpl.Lemmas.Decimal
import Smpl.Lemmas.Dedupe
import Smpl.Lemmas.Rd
import Smpl.Lemmas.RdRoland
import Smpl.Lemmas.Reversed
import Smpl.Lemmas.Rows
import Smpl.Lemmas.ShortRead
import Smpl.Lemmas.Stereo
import Smpl.Lemmas.StreamSector
import Smpl.Lemmas.StreamSpec
import Smpl.Lemmas.StreamWrappers
import Smpl.Lemmas.Trim
import Smpl.Lemmas.Walk
import Smpl.Lemmas.Windows
import Smpl.Props.C01
import Smpl.Props.C01E
import Smpl.Props.C01P
import Smpl.Props.C01S
import Smpl.Props.C01T
import Smpl.Props.C01W
import Smpl.Props.C02
import Smpl.Props.C02E
import Smpl.Props.C02O
import Smpl.Props.C02S
import Smpl.Props.C02W
import Smpl.Props.C03
import Smpl.Props.C04
import Smpl.Props.C05
import Smpl.Props.C05C
import Smpl.Props.C06
import Smpl.Props.C06D
import Smpl.Props.C06N
import Smpl.Props.C07
import Smpl.Props.C07A
import Smpl.Props.C07AC
import Smpl.Props.C07AD
import Smpl.Props.C07R
import Smpl.Props.C07RC
import Smpl.Props.C08
import Smpl.Props.C08R
import Smpl.Props.C09
import Smpl.Props.C10
import Smpl.Props.C10P
import Smpl.Props.C10T
import Smpl.Props.C11
import Smpl.Props.C12
import Smpl.Props.C12G
import Smpl.Props.C12I
import Smpl.Props.C12L
import Smpl.Props.C12M
import Smpl.Props.C12U
import Smpl.Props.C13
import Smpl.Props.C14
import Smpl.Props.C14R
import Smpl.Props.C15
import Smpl.Props.C16
import Smpl.Props.C16M
import Smpl.Props.C17
import Smpl.Props.C18
import Smpl.Props.C18N
import Smpl.Props.C19
import Smpl.Props.C20
import Smpl.Props.Consts
import Smpl.Props.Export
import Smpl.Props.Layouts
import Smpl.Model.CddaTool
